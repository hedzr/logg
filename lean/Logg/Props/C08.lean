/-
  C08 — Concurrent logging never tears or loses a record.
  The interleaving model (Logg.Model.Concurrent) rests on structural facts about the code that the
  extractor regenerates on every run (Gen.Facts); the theorems hold for every number of goroutines,
  every program of calls and every schedule. What a model cannot exhibit — data races at the
  memory level — is left to the race detector in the stress harness (see DESIGN.md).
-/
import Logg.Lemmas.Concurrent
import Logg.Gen.Facts

namespace Logg.Props.C08
open Logg

/-- (0) The facts the model rests on, as the code says them now: one Get and one Put of the print
    context around printImpl in Entry.print, and every function of the package that touches the
    pool takes exactly one context and returns exactly one (no second Put anywhere); group members are cloned before they are sorted,
    and the sort works on its parameter only; logger attributes are copied into the per-call
    slice; the shared size hint is only touched through sync/atomic; one Write per record, with no way out
    of printOut before it (a record is never dropped because another one is in flight), and the
    destination list is walked to its end whatever its members answer. -/
theorem model_facts :
    Gen.printBracket = ["Get", "set", "printImpl", "Put"] ∧
    ("Entry.print", 1, 1) ∈ Gen.printCtxPoolUse ∧ (∀ u ∈ Gen.printCtxPoolUse, u.2.1 = 1 ∧ u.2.2 = 1) ∧
    Gen.groupItemsCloned = true ∧ Gen.sortsItsParameter = true ∧ Gen.loggerAttrsCopied = true ∧
    Gen.fixedSizeNonAtomicUses = 0 ∧ Gen.writesPerPrintOut = 1 ∧
    Gen.printOutExitsBeforeWrite = 0 ∧ Gen.lwsWriteLoops = 1 ∧ Gen.lwsWriteEarlyExit = false := by decide

/-- (1) Mutual exclusion: in every reachable state, under every schedule, no print context is in
    two hands (held by two goroutines, or held and in the pool, or twice in the pool). -/
theorem contexts_never_shared (payload : CallId → Bytes) (progs : List (List CallId)) (sched : List Nat) :
    ((run payload (World.init progs) sched).pool ++ held (run payload (World.init progs) sched).gs).Nodup :=
  (inv_reach payload progs sched).nodup

/-- (2) Every Write payload a destination observes, under every schedule, is the complete record
    of one of the calls — never a mixture, never a torn buffer. -/
theorem every_write_is_one_whole_record (payload : CallId → Bytes) (progs : List (List CallId)) (sched : List Nat) :
    ∀ b ∈ (run payload (World.init progs) sched).out, ∃ c ∈ progs.flatten, b = payload c := by
  intro b hb
  obtain ⟨c, hc, rfl⟩ := List.mem_map.1 ((inv_reach payload progs sched).account.mem_iff.1 (List.mem_append_left _ hb))
  exact ⟨c, hc, rfl⟩

/-- (3) No record lost, none duplicated: once every goroutine has finished its calls, the multiset
    of delivered payloads equals the multiset of the calls' records — for all programs, all
    numbers of goroutines and all schedules. -/
theorem delivered_equals_admitted (payload : CallId → Bytes) (progs : List (List CallId)) (sched : List Nat)
    (hq : quiescent (run payload (World.init progs) sched)) :
    (run payload (World.init progs) sched).out.Perm (progs.flatten.map payload) := by
  have hacc := (inv_reach payload progs sched).account
  rwa [pending_quiescent _ hq, List.map_nil, List.append_nil] at hacc

/-- (4) At no point is a record delivered more often than it was issued (prefix safety): the
    delivered payloads together with those still to come are exactly the issued ones. -/
theorem never_more_than_issued (payload : CallId → Bytes) (progs : List (List CallId)) (sched : List Nat) :
    ((run payload (World.init progs) sched).out ++ (pending (run payload (World.init progs) sched).gs).map payload).Perm
      (progs.flatten.map payload) :=
  (inv_reach payload progs sched).account

/-! ### the model discriminates: why the single Put matters -/

def pay (c : CallId) : Bytes := [c.toUInt8]

/-- With a second Put per call (a context returned to the pool twice) there is a schedule of two
    goroutines on which one record is delivered twice and another is lost. -/
theorem double_put_tears :
    ([0, 0, 0, 0, 0, 1, 0, 1, 1, 0, 1].foldl (stepWith 2 pay) (World.init [[1, 2], [3]])).out = [[1], [3], [3]] := by
  decide

-- non-vacuity: two goroutines, three calls, a schedule that interleaves them and reuses a context
example : (run pay (World.init [[1, 2], [3]]) [0, 1, 0, 1, 0, 1, 0, 1, 0, 0, 0, 0]).out = [[1], [3], [2]] ∧
    quiescent (run pay (World.init [[1, 2], [3]]) [0, 1, 0, 1, 0, 1, 0, 1, 0, 0, 0, 0]) := by
  refine ⟨by decide, ?_⟩
  unfold quiescent; decide

end Logg.Props.C08
