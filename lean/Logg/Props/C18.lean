/-
  C18 — Path hardening never lets a protected directory prefix through.
  The prefix table is a Go map; every theorem holds for every order in which the map may be visited
  (any permutation σ of the table).
-/
import Logg.Model.Path
import Logg.Gen.Tables

namespace Logg.Props.C18
open Logg

theorem flag_constants : Gen.Lprivacypath = Fl.privacyPath ∧ Gen.Lprivacypathregexp = Fl.privacyPathRegexp := by decide

/-- "does not start with a slash" — what a hardened path looks like -/
def Rel (p : Bytes) : Prop := p.head? ≠ some 47

/-- An absolute pattern is no prefix of a relative path: what keeps every later stage off a hardened path. -/
theorem not_prefix_of_rel (k p : Bytes) (hk : k.head? = some 47) (hp : Rel p) : isPrefix k p = false := by
  cases k with
  | nil => cases hk
  | cons a as =>
    cases p with
    | nil => rfl
    | cons c cs =>
      obtain rfl : a = 47 := Option.some.inj hk
      have hc : (47 == c) = false := beq_false_of_ne fun e => hp (e ▸ rfl)
      rw [isPrefix, hc]; rfl

theorem replaceAll_of_prefix (s k v : Bytes) (hne : k ≠ []) (h : isPrefix k s = true) :
    ∃ rest, replaceAllB s k v = v ++ rest := by
  cases s with
  | nil =>
    cases k with
    | nil => exact absurd rfl hne
    | cons a as => simp [isPrefix] at h
  | cons c t =>
    exact ⟨_, by simp only [replaceAllB, replaceAll, List.isEmpty_eq_false_iff.2 hne, h]; rfl⟩

/-- hypotheses on the mapping table -/
structure GoodTable (tbl : List (Bytes × Bytes)) : Prop where
  keysAbsolute : ∀ kv ∈ tbl, kv.1.head? = some 47                     -- H1
  replRelative : ∀ kv ∈ tbl, kv.2 ≠ [] ∧ kv.2.head? ≠ some 47          -- H2

/-- one visit of the loop over the prefix table -/
abbrev tableStep (p : Bytes) (kv : Bytes × Bytes) : Bytes :=
  if isPrefix kv.1 p then replaceAllB p kv.1 kv.2 else p

theorem tableStep_rel (p : Bytes) (kv : Bytes × Bytes) (h1 : kv.1.head? = some 47) (hp : Rel p) :
    tableStep p kv = p := by
  rw [tableStep, not_prefix_of_rel kv.1 p h1 hp]; rfl

/-- A visit that fires puts the relative replacement in front. -/
theorem tableStep_fires (p : Bytes) (kv : Bytes × Bytes) (h1 : kv.1.head? = some 47)
    (h2 : kv.2 ≠ [] ∧ kv.2.head? ≠ some 47) (hf : isPrefix kv.1 p = true) : Rel (tableStep p kv) := by
  obtain ⟨r, hr⟩ := replaceAll_of_prefix p kv.1 kv.2 (List.ne_nil_of_mem (List.mem_of_mem_head? h1)) hf
  rw [tableStep, if_pos hf, hr, Rel]
  cases hv : kv.2 with
  | nil => exact absurd hv h2.1
  | cons a as => rw [hv] at h2; exact h2.2

theorem applyTable_rel_fixed (tbl : List (Bytes × Bytes)) (p : Bytes)
    (h1 : ∀ kv ∈ tbl, kv.1.head? = some 47) (hp : Rel p) : applyTable tbl p = p :=
  List.foldlRecOn tbl tableStep (motive := (· = p)) rfl fun q hq kv hkv => by
    rw [hq, tableStep_rel p kv (h1 kv hkv) hp]

/-- The first visit whose key is a prefix of the path makes it relative, and no later visit touches it;
    there is such a visit at the latest at `(k, v)`. -/
theorem applyTable_hides (tbl : List (Bytes × Bytes)) (file k v : Bytes) (hg : GoodTable tbl)
    (hk : (k, v) ∈ tbl) (hpre : isPrefix k file = true) : Rel (applyTable tbl file) := by
  induction tbl with
  | nil => cases hk
  | cons kv rest ih =>
    have hgrest : GoodTable rest :=
      ⟨fun x hx => hg.1 x (List.mem_cons_of_mem _ hx), fun x hx => hg.2 x (List.mem_cons_of_mem _ hx)⟩
    have hkv : kv ∈ kv :: rest := List.mem_cons_self
    rw [applyTable, List.foldl_cons]
    by_cases hfire : isPrefix kv.1 file = true
    · have hrel := tableStep_fires file kv (hg.1 kv hkv) (hg.2 kv hkv) hfire
      show Rel (applyTable rest (tableStep file kv))
      rwa [applyTable_rel_fixed rest _ hgrest.1 hrel]
    · rw [if_neg hfire]
      exact ih hgrest ((List.mem_cons.1 hk).resolve_left fun e => hfire (e ▸ hpre))

/-- H3: a regexp rule never turns a path that does not start with a slash into one that does. -/
def RuleKeepsRel (r : RxRule) : Prop := ∀ s, Rel s → Rel (r.apply s)

theorem rx_fold_rel (rx : List RxRule) (file p : Bytes) (h3 : ∀ r ∈ rx, RuleKeepsRel r) (hp : Rel p) :
    Rel (rx.foldl (fun p r => if r.matches file then r.apply p else p) p) :=
  List.foldlRecOn rx _ (motive := Rel) hp fun p hp r hr => by
    split
    · exact h3 r hr p hp
    · exact hp

/-- The built-in `/Volumes/[^/]+/` rule and every literal rule whose pattern is absolute satisfy H3:
    their pattern starts with a slash, so it cannot match at the head of a path that does not. -/
theorem volumes_keeps_rel (repl : Bytes) : RuleKeepsRel (.volumes repl) := by
  intro s hs
  cases s with
  | nil => simp [RxRule.apply, volumesReplace, Rel]
  | cons c t =>
    have hm : volumesMatchAt (c :: t) = none := by
      simp [volumesMatchAt, not_prefix_of_rel volumesPrefix _ (by decide) hs]
    simp only [RxRule.apply, List.length_cons, volumesReplace, hm]
    simpa [Rel] using hs

theorem lit_abs_keeps_rel (pat repl : Bytes) (hp : pat.head? = some 47) : RuleKeepsRel (.lit pat repl) := by
  intro s hs
  cases s with
  | nil => simp [RxRule.apply, replaceAllB, replaceAll, Rel]
  | cons c t =>
    have hne : pat.isEmpty = false := List.isEmpty_eq_false_iff.2 (List.ne_nil_of_mem (List.mem_of_mem_head? hp))
    have hnp := not_prefix_of_rel pat (c :: t) hp hs
    simp only [RxRule.apply, hne, Bool.false_eq_true, ↓reduceIte, replaceAllB, List.length_cons, replaceAll, hnp]
    simpa [Rel] using hs

theorem privOf_rel (flags : Nat) (σ : List (Bytes × Bytes)) (rx : List RxRule) (file : Bytes)
    (hpriv : flagSet flags Fl.privacyPath = true) (h3 : ∀ r ∈ rx, RuleKeepsRel r)
    (hrel : Rel (applyTable σ file)) : Rel (privOf flags σ rx file) := by
  unfold privOf
  rw [if_pos hpriv]
  by_cases hrx : flagSet flags Fl.privacyPathRegexp = true
  · simp only [if_pos hrx]
    exact rx_fold_rel rx file _ h3 hrel
  · simp only [if_neg hrx, not_prefix_of_rel volumesPrefix _ (by decide) hrel, Bool.false_eq_true, if_false]
    exact hrel

/-- Once some mapping of the table in the order it is visited (`σ`) applies, the reported path is relative: the first
    firing visit makes it so and nothing after it makes it absolute again. So no key of the table, all absolute, is a
    prefix of it - not only the one that matched. -/
theorem checkpath_rel (flags : Nat) (σ : List (Bytes × Bytes)) (rx : List RxRule) (rel file k v : Bytes)
    (hpriv : flagSet flags Fl.privacyPath = true) (hg : GoodTable σ)
    (h3 : ∀ r ∈ rx, RuleKeepsRel r) (hk : (k, v) ∈ σ) (hpre : isPrefix k file = true) :
    Rel (checkpath flags σ rx rel file) := by
  have hrel := privOf_rel flags σ rx file hpriv h3 (applyTable_hides σ file k v hg hk hpre)
  -- a relative path is reported as it is (`filepath.Rel` is asked for absolute ones only)
  rw [checkpath, if_neg (by simpa [Rel] using hrel)]
  exact hrel

/-- (1) While the privacy flag is on, a path under any registered mapping is never reported with that
    directory prefix — whatever the iteration order of the mapping table (σ ranges over all its
    permutations), whatever else is registered, with the regexp stage on or off, and whatever
    `filepath.Rel` answers. -/
theorem protected_prefix_hidden (flags : Nat) (tbl σ : List (Bytes × Bytes)) (rx : List RxRule) (rel file k v : Bytes)
    (hσ : σ.Perm tbl) (hpriv : flagSet flags Fl.privacyPath = true) (hg : GoodTable tbl)
    (h3 : ∀ r ∈ rx, RuleKeepsRel r) (hk : (k, v) ∈ tbl) (hpre : isPrefix k file = true) :
    isPrefix k (checkpath flags σ rx rel file) = false :=
  -- the permutation only says that `σ` has the entries of `tbl`
  not_prefix_of_rel k _ (hg.1 (k, v) hk) (checkpath_rel flags σ rx rel file k v hpriv
    ⟨fun x hx => hg.1 x (hσ.mem_iff.1 hx), fun x hx => hg.2 x (hσ.mem_iff.1 hx)⟩ h3 (hσ.mem_iff.2 hk) hpre)

/-- The hypotheses are not decoration: with replacements that are themselves absolute the answer
    depends on the iteration order and a protected prefix can survive (H2 violated). -/
theorem fails_without_H2 :
    checkpath Fl.privacyPath [([47, 97], [47, 116]), ([47, 116], [47, 97])] [] [] [47, 97, 47, 120] = [47, 97, 47, 120] ∧
    checkpath Fl.privacyPath [([47, 116], [47, 97]), ([47, 97], [47, 116])] [] [] [47, 97, 47, 120] = [47, 116, 47, 120] := by
  decide

/-- (2) With the privacy flag off the path is returned unchanged or as the shorter relative path. -/
theorem privacy_off (flags : Nat) (tbl : List (Bytes × Bytes)) (rx : List RxRule) (rel file : Bytes)
    (h : flagSet flags Fl.privacyPath = false) :
    checkpath flags tbl rx rel file = file ∨ (checkpath flags tbl rx rel file = rel ∧ rel.length < file.length) := by
  have hp : privOf flags tbl rx file = file := by simp [privOf, h]
  unfold checkpath
  rw [hp]
  split
  · split
    next hr => exact .inr ⟨rfl, by simpa using (Bool.and_eq_true_iff.1 hr).2⟩
    next => exact .inl rfl
  · exact .inl rfl

-- non-vacuity: home is hidden in both visiting orders of a table that also maps a directory below it
example : checkpath (Fl.privacyPath) [([47, 114], [126]), ([47, 114, 47, 112], [46])] [] [] [47, 114, 47, 112, 47, 97] = [126, 47, 112, 47, 97] ∧
          checkpath (Fl.privacyPath) [([47, 114, 47, 112], [46]), ([47, 114], [126])] [] [] [47, 114, 47, 112, 47, 97] = [46, 47, 97] := by decide

end Logg.Props.C18
