/-
  C16 — Timestamps show the record's instant in the configured zone and layout.
  `Gen.zoneIsUTC` and `Gen.layoutSel` are regenerated from PrintCtx.appendTimestamp,
  `Gen.defaultLayouts` from slog/cvt.go, the setters from Entry.SetUTCMode / SetTimeFormat.
  The rendering and parsing of an instant with a layout (time.AppendFormat / time.Parse) is the
  Go standard library's and is exercised by the correspondence only.
-/
import Logg.Model.Timestamp
import Logg.Lemmas.Bits
import Logg.Gen.Decisions

namespace Logg.Props.C16
open Logg

theorem flag_constants :
    Gen.Ldate = Fl.date ∧ Gen.Ltime = Fl.time ∧ Gen.Lmicroseconds = Fl.microseconds ∧
    Gen.LlocalTime = Fl.localTime ∧ Gen.Ldatetimeflags = Fl.date + Fl.time + Fl.microseconds := by decide

/-- (1) Zone: UTC iff mode = UTC, or no mode chosen and the local-time flag is off — for every
    mode value and every flag word. -/
theorem zone_is_spec (g : Globals) (mode : Int) : Gen.zoneIsUTC g mode = zoneSpec g mode := by
  unfold Gen.zoneIsUTC zoneSpec flagSet Fl.localTime
  generalize Nat.land g.flags 8 = n
  cases mode == 2 <;> cases mode == 0 <;> cases h : n == 0 <;> simp [bne, h]

theorem and_two_pow_flagSet (f k : Nat) : f &&& 2 ^ k = if flagSet f (2 ^ k) then 2 ^ k else 0 := by
  rw [flagSet, Lemmas.land_two_pow_ne_zero]
  exact Lemmas.and_two_pow f k

/-- `defaultLayouts`, read at the index the three bits make up, is the documented table (all 8
    combinations). -/
theorem defaultLayouts_spec (d t m : Bool) :
    (match List.lookup ((if d then 1 else 0) ||| (if t then 2 else 0) ||| (if m then 4 else 0)) Gen.defaultLayouts with
      | some l => l | none => "15:04:05.000000Z07:00") = flagLayout d t m := by
  cases d <;> cases t <;> cases m <;> rfl

/-- (2) Layout: the logger's own layout if set, else the entry of the flag table for the three
    date/time/microseconds bits (all 8 combinations), else the time-only default — for every
    flag word. -/
theorem layout_is_spec (g : Globals) (layout : String) : Gen.layoutSel g layout = layoutSpec g layout := by
  by_cases hl : layout = ""
  · subst hl
    -- the mask 7 takes the three bits apart
    have h7 : Nat.land g.flags 7 = g.flags &&& 2 ^ 0 ||| g.flags &&& 2 ^ 1 ||| g.flags &&& 2 ^ 2 := by
      rw [← Nat.and_or_distrib_left, ← Nat.and_or_distrib_left]; rfl
    simp only [Gen.layoutSel, layoutSpec, h7, and_two_pow_flagSet]
    exact defaultLayouts_spec (flagSet g.flags Fl.date) (flagSet g.flags Fl.time) (flagSet g.flags Fl.microseconds)
  · simp [Gen.layoutSel, layoutSpec, hl]

/-- (3) The setters: SetUTCMode() / (true) selects UTC (2), (false) local (1), last argument wins. -/
theorem setUTCMode_spec (old : Int) (bs : List Bool) :
    Gen.setUTCMode old bs = if bs.foldl (fun _ b => b) true = true then 2 else 1 := by
  -- a loop that overwrites its variable with a function of the current argument ends with that function
  -- of the last argument
  rw [← List.foldl_hom (fun b : Bool => if b = true then (2 : Int) else 1)
    (g₂ := fun _ b => if b = true then 2 else 1) (fun _ _ => rfl)]
  simp [Gen.setUTCMode]

-- non-vacuity
example : Gen.zoneIsUTC { flags := 8 } 0 = false ∧ Gen.zoneIsUTC { flags := 0 } 0 = true ∧
          Gen.zoneIsUTC { flags := 8 } 2 = true ∧ Gen.zoneIsUTC { flags := 0 } 1 = false := by decide
example : Gen.layoutSel { flags := Gen.LstdFlags } "" = "15:04:05.000000Z07:00" ∧
          Gen.layoutSel { flags := 1 } "" = "2006-01-02" ∧ Gen.layoutSel { flags := 1 } "Jan _2" = "Jan _2" := ⟨rfl, rfl, rfl⟩

end Logg.Props.C16
