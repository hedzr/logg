/-
  C19 — PrintCtx's buffer API behaves exactly like bytes.Buffer.
  (theorems: representation invariant and documented panics; the equivalence itself is the
  composition of the two correspondences against this model)
-/
import Logg.Lemmas.BufferSpec

namespace Logg.Props.C19
open Logg

theorem step_inv (s : Buf) (op : BufOp) (caps : List Nat) (h : Inv s) : Inv (bufStep s op caps).1 :=
  (Buf.step_sim (Buf.rep_abs h) op caps).elim (·.2) fun ⟨_, hr, _⟩ => hr.inv

def bufRun (s : Buf) (ops : List (BufOp × List Nat)) : Buf := ops.foldl (fun s oc => (bufStep s oc.1 oc.2).1) s

/-- (1) The representation invariant holds after every sequence of the listed operations, from any
    well-formed start and whatever capacities the runtime grants: no slice expression of the buffer
    code is ever out of range. -/
theorem run_inv (s : Buf) (ops : List (BufOp × List Nat)) (h : Inv s) : Inv (bufRun s ops) :=
  List.foldlRecOn ops _ (motive := Inv) h fun s hs oc _ => step_inv s oc.1 oc.2 hs

/-- (2) Growing never changes the unread contents (whether it reslices, slides or reallocates, and
    whatever capacity the runtime grants). -/
theorem grow_keeps_contents (s : Buf) (n : Nat) (caps : List Nat) (s' : Buf) (c' : List Nat)
    (h : Inv s) (hg : s.growRoom n caps = .ok (s', c')) : s'.unread = s.unread := by
  rcases Buf.growRoom_grows s n caps with he | ⟨s1, c1, he, h1⟩ <;> rw [he] at hg <;> cases hg
  obtain ⟨f, hf⟩ := h1 _ (Buf.rep_abs h)
  rw [hf.unread, Zip.room_unread, abs_unread]

/-- (2') An undocumented (runtime) panic can only come from a negative count given to Next, or from
    a writer that reports a negative count to WriteTo — exactly as with bytes.Buffer. Every other
    panic of the model is one of the documented ones (truncation out of range, negative Grow count,
    too large, negative Read count, invalid Write count). -/
theorem runtime_panic_only_from_bad_arguments (s : Buf) (op : BufOp) (caps : List Nat)
    (hp : (bufStep s op caps).2 = .panic .runtime) :
    (∃ n, op = .next n ∧ n < 0) ∨ (∃ a f, op = .writeTo a f ∧ a < 0) :=
  (Buf.step_panics s op caps).elim hp

/-- (3) Reset empties the buffer; Len/Bytes/String do not change it. -/
theorem reset_empties (s : Buf) (caps : List Nat) :
    (bufStep s .reset caps).1.unread = [] ∧ (bufStep s .len caps).1 = s ∧ (bufStep s .string caps).1 = s :=
  ⟨rfl, rfl, rfl⟩

-- non-vacuity: write, read a byte, grow enough to reallocate, unread — the unread has no effect after the slide
example :
    let s0 : Buf := { data := [], cap := 8 }
    let s1 := (bufStep s0 (.write [1, 2, 3, 4, 5, 6]) []).1
    let s2 := (bufStep s1 .readByte []).1
    let s3 := (bufStep s2 (.grow 100) [128]).1
    let s4 := (bufStep s3 .unreadByte []).1
    s2.unread = [2, 3, 4, 5, 6] ∧ s3.cap = 128 ∧ s3.off = 0 ∧ s4.unread = [2, 3, 4, 5, 6] := by decide

end Logg.Props.C19
