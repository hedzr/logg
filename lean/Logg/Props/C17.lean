/-
  C17 — Level names and the level registry: round trips and safe registration.
-/
import Logg.Bridge.Registry
import Logg.Lemmas.Registry
import Logg.Lemmas.Assoc
import Logg.Lemmas.QuoteRoundTrip

namespace Logg.Props.C17
open Logg Logg.Lemmas

/-- The registry invariant: every level's title maps back to that level, and every titled
    level is a known level. -/
def Consistent (r : Registry) : Prop :=
  (∀ l s, r.levelToString.lookup l = some s → r.stringToLevel.lookup s = some l) ∧
  (∀ l s, r.levelToString.lookup l = some s → l ∈ r.allLevels)

/-- (1) The built-in tables, as the source has them now, are consistent. -/
theorem builtin_consistent : Consistent Bridge.genRegistry := by
  have h : ∀ p ∈ Bridge.genRegistry.levelToString,
      Bridge.genRegistry.stringToLevel.lookup p.2 = some p.1 ∧ p.1 ∈ Bridge.genRegistry.allLevels := by decide
  exact ⟨fun l s hl => (h _ (mem_of_lookup hl)).1, fun l s hl => (h _ (mem_of_lookup hl)).2⟩

/-- (2) RegisterLevel refuses a numeric value or a title that is already in use. In the model a
    refusal returns no new registry at all, i.e. every table is left as it was. -/
theorem refuses_used_value (r : Registry) (v : Int) (t : Bytes) (p : RegPack) (h : v ∈ r.allLevels) :
    r.register v t p = none := by
  simp [Registry.register, h]

theorem refuses_used_title (r : Registry) (v : Int) (t : Bytes) (p : RegPack) (l : Int)
    (h : r.stringToLevel.lookup t = some l) : r.register v t p = none := by
  simp [Registry.register, h]

theorem accepts_fresh (r : Registry) (v : Int) (t : Bytes) (p : RegPack)
    (hv : v ∉ r.allLevels) (ht : r.stringToLevel.lookup t = none) : (r.register v t p).isSome = true := by
  simp [Registry.register, hv, ht]

/-- (3) A successful registration preserves the invariant. -/
theorem register_preserves (r r' : Registry) (v : Int) (t : Bytes) (p : RegPack)
    (hc : Consistent r) (h : r.register v t p = some r') : Consistent r' := by
  have e := register_eq_some h
  unfold Consistent
  rw [e.allLevels, e.levelToString, e.stringToLevel]
  constructor
  · intro l s hl
    rcases lookup_assocSet_eq_some hl with ⟨rfl, rfl⟩ | ⟨-, hold⟩
    · exact lookup_assocSet_self _ _ _
    · have hs := hc.1 l s hold
      -- an old title is not the new one, which was unused
      rwa [lookup_assocSet_ne _ _ _ _ fun e' => by rw [e', e.unused] at hs; cases hs]
  · intro l s hl
    rcases lookup_assocSet_eq_some hl with ⟨rfl, -⟩ | ⟨-, hold⟩
    · exact List.mem_append_right _ (List.mem_singleton_self _)
    · exact List.mem_append_left _ (hc.2 l s hold)

/-- Registration histories: a refused registration is a no-op. -/
structure RegOp where
  v : Int
  title : Bytes
  pack : RegPack

def regStep (r : Registry) (op : RegOp) : Registry := (r.register op.v op.title op.pack).getD r

theorem refusal_is_noop (r : Registry) (op : RegOp) (h : r.register op.v op.title op.pack = none) :
    regStep r op = r := by simp [regStep, h]

theorem regStep_cases (r : Registry) (op : RegOp) :
    regStep r op = r ∨ r.register op.v op.title op.pack = some (regStep r op) := by
  unfold regStep
  cases r.register op.v op.title op.pack with
  | none => exact .inl rfl
  | some r' => exact .inr rfl

theorem regStep_consistent (r : Registry) (op : RegOp) (hc : Consistent r) : Consistent (regStep r op) := by
  rcases regStep_cases r op with h | h
  · rwa [h]
  · exact register_preserves r _ _ _ _ hc h

/-- (4) After any history of registrations (accepted or refused) the registry is consistent. -/
theorem consistent_after_history (ops : List RegOp) :
    Consistent (ops.foldl regStep Bridge.genRegistry) :=
  List.foldlRecOn ops regStep (motive := Consistent) builtin_consistent fun r hc op _ => regStep_consistent r op hc

/-- One registration step never renames a level that already has a name. -/
theorem step_keeps_names (r : Registry) (hc : Consistent r) (op : RegOp) (l : Int) (s : Bytes)
    (h : r.levelToString.lookup l = some s) : (regStep r op).levelToString.lookup l = some s := by
  rcases regStep_cases r op with e | e
  · rwa [e]
  · have e := register_eq_some e
    -- a named level is a known one, so it is not the value just accepted
    have hne : l ≠ op.v := fun e' => e.fresh (e' ▸ hc.2 l s h)
    rwa [e.levelToString, lookup_assocSet_ne _ _ _ _ hne]

/-- (4b) Names persist over every history: a level that has a name — a built-in one or one
    registered earlier — keeps exactly that name whatever is registered (or refused) later; no
    later registration can rename it. -/
theorem names_persist (r : Registry) (hc : Consistent r) (ops : List RegOp) (l : Int) (s : Bytes)
    (h : r.levelToString.lookup l = some s) : (ops.foldl regStep r).levelToString.lookup l = some s :=
  (List.foldlRecOn ops regStep (motive := fun r => Consistent r ∧ r.levelToString.lookup l = some s) ⟨hc, h⟩
    fun r ⟨hc, h⟩ op _ => ⟨regStep_consistent r op hc, step_keeps_names r hc op l s h⟩).2

/-- … in particular the built-in names (the regenerated table) survive every history. -/
theorem builtin_names_persist (ops : List RegOp) (l : Int) (s : Bytes)
    (h : Bridge.genRegistry.levelToString.lookup l = some s) :
    (ops.foldl regStep Bridge.genRegistry).levelToString.lookup l = some s :=
  names_persist _ builtin_consistent ops l s h

-- non-vacuity: the built-in table names the Warn level
example : (Bridge.genRegistry.levelToString.lookup Lv.warn).isSome = true := by decide

/-- (5) Round trips, for every built-in or registered level of a consistent registry: the printed
    name parses back, the text form unmarshals back, the JSON form unmarshals back (for any
    quoting function `q` with left inverse `uq`; C05 proves that of the encoder's quoting). -/
theorem name_round_trip (r : Registry) (hc : Consistent r) (l : Int) (s : Bytes)
    (h : r.levelToString.lookup l = some s) : r.parse (r.name l) = some l := by
  simp [Registry.name, Registry.parse, h, hc.1 l s h]

theorem text_round_trip (r : Registry) (hc : Consistent r) (l : Int) (s : Bytes)
    (h : r.marshalText l = some s) : r.unmarshalText s = some l := by
  unfold Registry.marshalText at h
  simp [Registry.unmarshalText, Registry.parse, hc.1 l s h]

theorem json_round_trip (r : Registry) (hc : Consistent r) (q : Bytes → Bytes) (uq : Bytes → Option Bytes)
    (hq : ∀ s, uq (q s) = some s) (l : Int) (j : Bytes) (h : r.marshalJSON q l = some j) :
    r.unmarshalJSON uq j = some l := by
  unfold Registry.marshalJSON at h
  cases ht : r.marshalText l with
  | none => simp [ht] at h
  | some s =>
    simp [ht] at h; subst h
    simp [Registry.unmarshalJSON, hq, text_round_trip r hc l s ht]

/-- (5') The JSON round trip with the quoting the code really uses (Go-syntax quoting written by
    MarshalJSON, strconv.Unquote in UnmarshalJSON): the hypothesis of `json_round_trip` is a theorem
    (Lemmas/QuoteRoundTrip: for every byte string). -/
theorem json_round_trip_as_coded (r : Registry) (hc : Consistent r) (l : Int) (j : Bytes)
    (h : r.marshalJSON (goQuote isPrintTable) l = some j) : r.unmarshalJSON goUnquote j = some l :=
  json_round_trip r hc (goQuote isPrintTable) goUnquote (goUnquote_goQuote isPrintTable Lemmas.isPrintTable_safe) l j h

/-- (6) What a successful registration establishes. -/
theorem registered_answers_to_title (r r' : Registry) (v : Int) (t : Bytes) (p : RegPack)
    (h : r.register v t p = some r') :
    r'.name v = t ∧ r'.parse t = some v ∧ v ∈ r'.allLevels := by
  have e := register_eq_some h
  simp [Registry.name, Registry.parse, e.allLevels, e.levelToString, e.stringToLevel, lookup_assocSet_self]

theorem registered_treated_as (r r' : Registry) (v : Int) (t : Bytes) (p : RegPack)
    (h : r.register v t p = some r') (ht : p.treatAs < Lv.max) : r'.treatAs.lookup v = some p.treatAs := by
  rw [(register_eq_some h).treatAs, if_pos ht, lookup_assocSet_self]

theorem registered_error_device (r r' : Registry) (v : Int) (t : Bytes) (p : RegPack)
    (h : r.register v t p = some r') (he : p.toErr = true) : (r'.errorDevice.lookup v).isSome = true := by
  rw [(register_eq_some h).errorDevice, if_pos he, lookup_assocSet_self]; rfl

/-- (7) ShortTag(n) of a level without custom tag for that width is exactly n bytes, n = 1 … 5;
    outside 1 … 5 it is the documented panic. -/
theorem shortTag_length (r : Registry) (l : Int) (n : Nat) (hn : 1 ≤ n ∧ n ≤ 5)
    (hno : r.hasCustomTag l n = false) :
    ∃ t, r.shortTag l n = some t ∧ t.length = n := Lemmas.shortTag_length r l n hn hno

theorem shortTag_panics_outside (r : Registry) (l n : Int) (h : n ≤ 0 ∨ n ≥ 6) : r.shortTag l n = none := by
  simp [Registry.shortTag, maxLengthShortTag, h]

-- non-vacuity: a registration accepted by the built-in registry, one refused for its value, one for its title
example : (Bridge.genRegistry.register 17 [78, 79, 84] {}).isSome = true ∧
          (Bridge.genRegistry.register 4 [102] {}).isNone = true ∧
          (Bridge.genRegistry.register 17 [119, 97, 114, 110] {}).isNone = true := by decide
example : Bridge.genRegistry.shortTag 4 3 = some [73, 78, 70] ∧ Bridge.genRegistry.shortTag 4 6 = none := by decide

end Logg.Props.C17
