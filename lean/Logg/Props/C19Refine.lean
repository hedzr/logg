/-
  C19 (continued) — the buffer model refines a queue specification (Model/BufferSpec): whatever the
  capacity, the nil-ness of the slice and the slice arithmetic do, every operation gives the result the
  specification gives on (consumed bytes, unread bytes, kind of the last read), and the only freedom
  is that making room may forget the consumed bytes.
-/
import Logg.Props.C19

namespace Logg.Props.C19
open Logg

/-- (R1) **Refinement, one operation.** In every state that satisfies the representation invariant,
    every operation of the listed interface — with any argument, any capacities granted by the runtime —
    is the specification's operation on the abstracted state: same result (value, error, panic) and
    the abstraction of the new state is the specification's new state for one of the two choices
    "the consumed bytes were kept / forgotten". The one excluded outcome is the "too large" panic,
    which depends on the capacity (it needs a buffer of more than 2^62 bytes). -/
theorem step_refines_spec (s : Buf) (op : BufOp) (caps : List Nat) (h : Inv s)
    (hne : (bufStep s op caps).2 ≠ .panic .tooLarge) :
    ∃ forget, ((bufStep s op caps).1.abs, (bufStep s op caps).2) = specStep s.abs op forget :=
  (Buf.step_sim (Buf.rep_abs h) op caps).elim (fun ht => absurd ht.1 hne) fun ⟨f, hr, he⟩ => ⟨f, by rw [hr.abs, he]⟩

/-- the results of a sequence of operations on the model -/
def bufTrace : Buf → List (BufOp × List Nat) → List BufRes
  | _, [] => []
  | s, (op, caps) :: rest => (bufStep s op caps).2 :: bufTrace (bufStep s op caps).1 rest

/-- … and on the specification, for a list of keep / forget choices -/
def specTrace : Zip → List BufOp → List Bool → List BufRes
  | _, [], _ => []
  | q, op :: rest, f :: fs => (specStep q op f).2 :: specTrace (specStep q op f).1 rest fs
  | q, op :: rest, [] => (specStep q op false).2 :: specTrace (specStep q op false).1 rest []

/-- histories, for any queue the start state represents -/
theorem run_sim (ops : List (BufOp × List Nat)) : ∀ (s : Buf) (q : Zip), Buf.Rep s q →
    (∀ r ∈ bufTrace s ops, r ≠ .panic .tooLarge) →
    ∃ fs, fs.length = ops.length ∧ specTrace q (ops.map (·.1)) fs = bufTrace s ops := by
  induction ops with
  | nil => exact fun _ _ _ _ => ⟨[], rfl, rfl⟩
  | cons oc rest ih =>
    intro s q h hne
    obtain ⟨op, caps⟩ := oc
    rcases Buf.step_sim h op caps with ht | ⟨f, hr, he⟩
    · exact absurd ht.1 (hne _ List.mem_cons_self)
    · obtain ⟨fs, hlen, hfs⟩ := ih _ _ hr fun r hr => hne r (List.mem_cons_of_mem _ hr)
      exact ⟨f :: fs, congrArg (· + 1) hlen, by simp only [List.map_cons, specTrace, bufTrace, hfs, he]⟩

/-- (R2) **Refinement, whole histories.** For every sequence of operations from a state satisfying the
    invariant (the empty buffer does), if no "too large" panic occurs, the sequence of results is a
    sequence of results of the specification. -/
theorem run_refines_spec (ops : List (BufOp × List Nat)) : ∀ (s : Buf), Inv s →
    (∀ r ∈ bufTrace s ops, r ≠ .panic .tooLarge) →
    ∃ fs, fs.length = ops.length ∧ specTrace s.abs (ops.map (·.1)) fs = bufTrace s ops :=
  fun s h => run_sim ops s s.abs (Buf.rep_abs h)

/-- the result of a specification step does not depend on the keep / forget choice: the choice only shows in the
    states of the writes, ReadFrom and Grow, and only Grow's result has to be reached through a test -/
theorem spec_result_choice_free (q : Zip) (op : BufOp) (f g : Bool) : (specStep q op f).2 = (specStep q op g).2 := by
  cases op with
  | grow n => simp only [specStep]; split <;> rfl
  | _ => rfl

/-- (R3) **Capacity does not show.** Two buffers with the same consumed bytes, unread bytes and last-read
    kind — whatever their capacities, whether their slice is nil, whatever the runtime grants them
    when they grow — answer every operation with the same result (unless one of them reports
    "too large"). -/
theorem result_independent_of_representation (s₁ s₂ : Buf) (op : BufOp) (c₁ c₂ : List Nat)
    (h₁ : Inv s₁) (h₂ : Inv s₂) (hab : s₁.abs = s₂.abs)
    (n₁ : (bufStep s₁ op c₁).2 ≠ .panic .tooLarge) (n₂ : (bufStep s₂ op c₂).2 ≠ .panic .tooLarge) :
    (bufStep s₁ op c₁).2 = (bufStep s₂ op c₂).2 := by
  obtain ⟨f₁, e₁⟩ := step_refines_spec s₁ op c₁ h₁ n₁
  obtain ⟨f₂, e₂⟩ := step_refines_spec s₂ op c₂ h₂ n₂
  rw [congrArg Prod.snd e₁, congrArg Prod.snd e₂, hab]
  exact spec_result_choice_free _ _ _ _

/-- non-vacuity: "héllo" written, a rune read and unread, two bytes read, Grow that slides — the
    specification's results on the empty queue -/
example : specTrace Zip.empty [.writeString [104, 195, 169], .readByte, .readRune, .unreadRune, .len, .next 5, .unreadByte, .bytes]
      [true, false, false, false, false, false, false, false] =
    [.nErr 3 "", .byteErr 104 "", .rune 233 2 "", .err "", .n 2, .bytes [195, 169], .err "", .bytes [169]] := by
  decide
example : Inv { data := [], cap := 0 } := Nat.le_refl 0

end Logg.Props.C19
