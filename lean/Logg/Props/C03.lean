/-
  C03 — Severity routing and writer-set configuration follow the documented model.
  `Gen.dualGet`, `Gen.findWriterSrc` are regenerated from dualWriter.Get / Entry.findWriter.
-/
import Logg.Model.Pipeline
import Logg.Gen.Facts

namespace Logg.Props.C03
open Logg

/-- (1) Routing, as the code does it now, is the routing of the statement — for every
    severity (any integer), any registry, any configuration, configured or not. -/
theorem route_is_spec (g : Globals) (c : WriterCfg) (sev : Int) : routeGen g c sev = routeSpec g c sev := by
  -- a logger without writers of its own is routed like one that holds the factory set; after that the atoms of
  -- the rule are decided in the order the statement consults them, one `simp` per leaf seeing both definitions
  suffices h : ∀ d, routeGen g (some d) sev = routeSpec g (some d) sev by
    cases c with
    | none => exact h DualWriter.factory
    | some d => exact h d
  intro d
  unfold routeGen routeSpec Gen.findWriterSrc Gen.dualGet Lv.off
  simp only [Option.isSome_some, ensure, Option.getD_some]
  by_cases h7 : sev = 7
  · simp [h7]
  · cases hl : List.lookup sev d.leveled with
    | none => cases List.lookup sev g.errorDevice <;> simp [h7, hl]
    | some ws =>
      cases ws with
      | nil => cases List.lookup sev g.errorDevice <;> simp [h7, hl]
      | cons w ws => simp [h7, hl]

/-- (2) A logger never given writers uses the package defaults: stderr for error-class
    severities, stdout otherwise. -/
theorem unconfigured_uses_defaults (g : Globals) (sev : Int) (h : sev ≠ Lv.off) :
    routeSpec g none sev = if (g.errorDevice.lookup sev).isSome then [stderrId] else [stdoutId] := by
  simp [routeSpec, ensure, DualWriter.factory, h]

/-- The abstract meaning of the configuring calls on the three lists: set replaces, add appends,
    remove deletes that writer (its first occurrence), reset restores the defaults; a nil writer
    changes nothing. -/
def specStep (d : DualWriter) : WriterOp → DualWriter
  | .setWriter w => if w = 0 then d else { d with normal := [w] }
  | .addWriter w => if w = 0 then d else { d with normal := d.normal ++ [w] }
  | .removeWriter w => if w = 0 then d else { d with normal := d.normal.erase w }
  | .setErrorWriter w => if w = 0 then d else { d with error := [w] }
  | .addErrorWriter w => if w = 0 then d else { d with error := d.error ++ [w] }
  | .removeErrorWriter w => if w = 0 then d else { d with error := d.error.erase w }
  | .addLevelWriter lvl w => if w = 0 then d else
      { d with leveled := assocSet d.leveled lvl ((d.leveled.lookup lvl).getD [] ++ [w]) }
  | .removeLevelWriter lvl w => if w = 0 then d else
      match d.leveled.lookup lvl with
      | some ws => { d with leveled := assocSet d.leveled lvl (ws.erase w) }
      | none => d
  | .resetLevelWriter lvl => { d with leveled := assocDel d.leveled lvl }
  | .resetLevelWriters => { d with leveled := [] }
  | .resetWriters => DualWriter.factory

/-- Writers the user can name are never the package defaults. -/
def userOp : WriterOp → Prop
  | .removeWriter w | .removeErrorWriter w => w ≠ stdoutId ∧ w ≠ stderrId
  | _ => True

/-- (3) One configuring call does to the effective configuration (own, or the defaults for a
    logger that has none yet) exactly what it denotes — including the lazily created writer set
    and the calls on a fresh logger. -/
theorem step_refines_spec (c : WriterCfg) (op : WriterOp) (h : userOp op) :
    ensure (cfgStep c op) = specStep (ensure c) op := by
  -- only the two removals do not create the writer set; on a logger that has none the code ignores them, which is the
  -- documented removal only if the writer is not a package default: what `userOp` asks
  cases op with
  | removeWriter w =>
    cases c with
    | some d => rfl
    | none =>
      have : (stdoutId == w) = false := beq_false_of_ne (Ne.symm h.1)
      simp [cfgStep, specStep, ensure, DualWriter.factory, this]
  | removeErrorWriter w =>
    cases c with
    | some d => rfl
    | none =>
      have : (stderrId == w) = false := beq_false_of_ne (Ne.symm h.2)
      simp [cfgStep, specStep, ensure, DualWriter.factory, this]
  | _ => rfl

/-- (4) After any sequence of set / add / remove / reset calls the configuration is what the
    sequence denotes. -/
theorem config_refines_spec (c : WriterCfg) (ops : List WriterOp) (h : ∀ op ∈ ops, userOp op) :
    ensure (cfgRun c ops) = ops.foldl specStep (ensure c) :=
  List.foldl_rel (r := fun c d => ensure c = d) rfl fun op hop c _ hc => hc ▸ step_refines_spec c op (h op hop)

def isWrite : WEvent → Bool
  | .write _ _ => true
  | _ => false

def eventWriter : WEvent → Wid
  | .tell w _ => w
  | .write w _ => w

/-- the writes of one `printOut`, in order, are the routed list -/
theorem deliver_writes (settable : Wid → Bool) (fails : Nat → Bool) (start : Nat) (dests : List Wid) (sev : Int) :
    ((deliver settable fails start dests sev).1.filter isWrite).map eventWriter = dests := by
  -- the tells are filtered out, every attempt is kept, and the attempts are `dests` paired with their positions
  have h0 : ∀ l : List Wid, l.filter (fun _ => false) = [] := fun l => List.filter_eq_nil_iff.mpr (by simp)
  have h1 : ∀ l : List (Wid × Nat), l.filter (fun _ => true) = l := fun l => List.filter_eq_self.mpr (by simp)
  simp [deliver, List.filter_map, Function.comp_def, isWrite, eventWriter, h0, h1]

theorem mem_deliver {settable : Wid → Bool} {fails : Nat → Bool} {start : Nat} {dests : List Wid} {sev : Int}
    {e : WEvent} : e ∈ (deliver settable fails start dests sev).1 ↔
      (∃ w ∈ dests, settable w = true ∧ .tell w sev = e) ∨
      (∃ w i, dests[i]? = some w ∧ .write w (!fails (start + i)) = e) := by
  simp only [deliver, List.mem_append, List.mem_map, List.mem_filter, List.mem_zipIdx_iff_getElem?, Prod.exists,
    and_assoc]

/-- (5) Writers outside the selected set receive nothing; every selected writer gets exactly one
    write, in list order. -/
theorem only_selected_written (settable : Wid → Bool) (fails : Nat → Bool) (start : Nat) (dests : List Wid) (sev : Int) :
    (((deliver settable fails start dests sev).1.filter isWrite).map eventWriter) = dests ∧
    ∀ e ∈ (deliver settable fails start dests sev).1, eventWriter e ∈ dests := by
  refine ⟨deliver_writes .., fun e he => ?_⟩
  rcases mem_deliver.mp he with ⟨w, hw, _, rfl⟩ | ⟨w, i, hi, rfl⟩
  · exact hw
  · exact List.mem_of_getElem? hi

/-- (6) A destination that asks to be told the severity is told it — the severity of this very
    record — before its write, and nothing else happens to it in between. -/
theorem told_before_write (settable : Wid → Bool) (fails : Nat → Bool) (start : Nat) (dests : List Wid) (sev : Int)
    (w : Wid) (hw : w ∈ dests) (hs : settable w = true) :
    WEvent.tell w sev ∈ (deliver settable fails start dests sev).1 ∧
    ∀ e ∈ (deliver settable fails start dests sev).1, ∀ s', e = WEvent.tell w s' → s' = sev := by
  refine ⟨mem_deliver.mpr (.inl ⟨w, hw, hs, rfl⟩), fun e he s' hes => ?_⟩
  subst hes
  rcases mem_deliver.mp he with ⟨_, _, _, h⟩ | ⟨_, _, _, h⟩
  · cases h; rfl
  · cases h

/-- (7) What printOut does with the destination list the routing selected, as the code says it now
    (regenerated): the destination is told the severity, then written to once, and only then a failure
    is reported; nothing leaves printOut before the Write, so every routed record is handed over, and
    the list hands it to each member, whatever the earlier members answered. -/
theorem handover_facts :
    Gen.printOutSeq = ["tell", "write", "warn"] ∧ Gen.writesPerPrintOut = 1 ∧ Gen.printOutExitsBeforeWrite = 0 ∧
    Gen.lwsWriteLoops = 1 ∧ Gen.lwsWriteEarlyExit = false := ⟨rfl, rfl, rfl, rfl, rfl⟩

-- non-vacuity: add then remove on a fresh logger; a leveled writer takes precedence; empty leveled list falls back
example : cfgRun none [.addWriter 5, .addWriter 6, .removeWriter 5] = some { normal := [stdoutId, 6], error := [stderrId], leveled := [] } := by decide
example : routeSpec { errorDevice := [(2, true)] } (cfgRun none [.setWriter 5, .addLevelWriter 2 7]) 2 = [7] ∧
          routeSpec { errorDevice := [(2, true)] } (cfgRun none [.setWriter 5, .addLevelWriter 2 7, .removeLevelWriter 2 7]) 2 = [stderrId] ∧
          routeSpec { errorDevice := [(2, true)] } (cfgRun none [.setWriter 5]) 4 = [5] := by decide

end Logg.Props.C03
