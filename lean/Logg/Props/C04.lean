/-
  C04 — JSON mode: each record is one line of valid JSON decoding to what was logged.

  Proved here, for the encoder model tied byte for byte to the code: the JSON escaper is safe for ALL byte
  strings (well-formed string body, no control byte), every valid UTF-8 string decodes back to itself,
  a whole record is one line, and the object structure reads back: a member reader (strings with
  their escapes, nested brackets and braces, split at the commas and colons of depth 0) finds in the
  record's line exactly one member per logged field, in the order written, each under its own key
  literal, a group again an object of exactly its members — at any depth (`json_record_reads_back`,
  `json_group_reads_back`). Key literals and string values then decode by (1'). What remains with the
  encoding/json oracle: that Go's decoder agrees with this reader (compared on every generated line,
  `Q jmem` probes) and the numeric / time value texts.
-/
import Logg.Lemmas.EncoderClean
import Logg.Lemmas.JsonRoundTrip
import Logg.Lemmas.EncoderJson
import Logg.Gen.Facts

namespace Logg.Props.C04
open Logg Logg.Lemmas

/-- (1) Whatever bytes a message, a key, the logger name or a string-like value contains (quotes,
    backslashes, CR/LF, control characters, invalid UTF-8), what is written is `"` body `"` where body
    is a well-formed JSON string body: no unescaped quote, no raw control byte, only the escapes
    `\" \\ \n \r \t \uXXXX`. No input can close the string early, break the line or forge a member. -/
theorem json_string_wellformed (s : Bytes) :
    ∃ body, jsonQuote s = 34 :: body ++ [34] ∧ jsonBodyOK body = true := jsonQuote_wellformed s

theorem json_string_has_no_control_byte (s : Bytes) : NoC0 (jsonQuote s) := jsonQuote_noC0 s

/-- (1') Value preservation for strings: what `encoding/json` reads from the written literal is the
    logged value byte for byte, whenever that value is valid UTF-8 — for all such strings (quotes,
    backslashes, CR/LF, every control character, U+2028/U+2029, astral runes included). -/
theorem json_string_decodes_back (s : Bytes) (h : isValidUtf8 s = true) : jsonUnquote (jsonQuote s) = some s :=
  jsonUnquote_jsonQuote s h

/-- keys are written through the same escaper -/
theorem json_keys_are_escaped (isPrint : Nat → Bool) (k : Bytes) :
    ({ fmt := .json, isPrint := isPrint } : EncCfg).key k = jsonQuote k := rfl

/-- (2) A JSON record occupies exactly one line: `{ … }` followed by one line feed, with no control byte
    before it — for every message, logger name, key and value (nothing is assumed about them), groups
    nested to any depth. Only the texts rendered by the standard library (timestamp, floats, times) are
    assumed free of control bytes. -/
theorem json_one_line (p : Presentation) (depth : Nat) (r : Record) (out : Bytes)
    (hts : NoC0 r.ts) (hattrs : ∀ a ∈ r.attrs, attrOK false depth a = true)
    (h : encodeRecord .json isPrintTable p depth r = some out) :
    ∃ body, out = body ++ [10] ∧ NoC0 body :=
  plain_one_line (f := .json) (by decide) isPrintTable_safe hts hattrs h

/-- (3) The record is an object: it starts with `{` and ends with `}` before the line feed. -/
theorem json_record_is_braced (isPrint : Nat → Bool) (name : Bytes) (depth : Nat) (r : Record) :
    ∃ mid, plainBody { fmt := .json, isPrint := isPrint } name depth r = 123 :: mid ++ [125] :=
  ⟨_, plainBody_json ⟨rfl⟩ name depth r⟩

/-- (4) Values: nil is `null`; a group is a nested object `{…}`; unsigned, float and complex numbers are
    written as strings holding the exact decimal text, signed integers as numbers. -/
theorem json_values (isPrint : Nat → Bool) (pfx : Bytes) (fuel : Nat) :
    let c : EncCfg := { fmt := .json, isPrint := isPrint }
    encVal c fuel pfx .nil = [110, 117, 108, 108] ∧
    (∀ i, encVal c fuel pfx (.int i) = intDigits i) ∧
    (∀ n, encVal c fuel pfx (.uint n) = [34] ++ natDigits n ++ [34]) ∧
    (∀ t, encVal c fuel pfx (.float t) = [34] ++ t ++ [34]) ∧
    (∀ items, ∃ mid, encVal c (fuel + 1) pfx (.group items) = [123] ++ mid ++ [125]) := by
  intro c
  have hj : c.json = true := rfl
  refine ⟨?_, fun i => ?_, fun n => ?_, fun t => ?_, fun items => ⟨encAttrs c fuel pfx true (prepAttrs items), ?_⟩⟩ <;>
    simp only [encVal, jsonQuoted, hj, if_true]

/-- (5) **The record reads back.** For every JSON record (any message, name, severity, attribute list
    with groups nested to any depth, any key bytes, caller on or off) the line is `object ++ LF`, and the
    member reader finds in `object` exactly: `"time"`, `"logger"` (if named), `"level"`, `"msg"`, one
    member per attribute (after de-duplication, in key order) whose key literal is the escaped key and
    whose value text is the encoder's rendering of the value, then `"caller"` — nothing more, nothing
    less. No key or value can close a string or an object early, add a member or a second record.
    Assumed (decidable): the texts the standard library renders and the encoder writes raw between
    quotes (timestamp, floats, complex numbers, times) contain no quote or backslash. -/
theorem json_record_reads_back (isPrint : Nat → Bool) (p : Presentation) (depth : Nat) (r : Record) (out : Bytes)
    (hnb : (r.lvl == Lv.always && isBlank r.msg) = false)
    (hts : inqB r.ts = true) (hattrs : ∀ a ∈ r.attrs, attrOKJ depth a = true)
    (h : encodeRecord .json isPrint p depth r = some out) :
    let c : EncCfg := { fmt := .json, isPrint := isPrint }
    ∃ object, out = object ++ [10] ∧ jsonMembers object = some (jsonFields c (p.reg.name r.lvl) depth r) := by
  intro c
  rw [encodeRecord_plain (by decide) hnb] at h
  exact ⟨_, (Option.some.inj h).symm, plainBody_members ⟨rfl⟩ (p.reg.name r.lvl) depth r hts hattrs⟩

/-- (5') A group value is itself an object whose members are exactly the group's attributes (last
    occurrence of a key, ascending key order), each value text again the encoder's rendering — so (5)
    applies at every level of nesting. -/
theorem json_group_reads_back (isPrint : Nat → Bool) (fuel : Nat) (pfx : Bytes) (items : List Attr)
    (hok : okJ (fuel + 1) (.group items) = true) :
    let c : EncCfg := { fmt := .json, isPrint := isPrint }
    jsonMembers (encVal c (fuel + 1) pfx (.group items)) = some (memsOf c fuel (prepAttrs items)) :=
  group_members ⟨rfl⟩ fuel pfx items hok

/-- the message member is there, and its text decodes to the message (valid UTF-8) -/
theorem json_msg_member (isPrint : Nat → Bool) (levelName : Bytes) (depth : Nat) (r : Record) (hu : isValidUtf8 r.msg = true) :
    let c : EncCfg := { fmt := .json, isPrint := isPrint }
    (jsonQuote kMsg, jsonQuote r.msg) ∈ jsonFields c levelName depth r ∧ jsonUnquote (jsonQuote r.msg) = some r.msg := by
  intro c
  have hq : c.quote r.msg = jsonQuote r.msg := (⟨rfl⟩ : JsonCfg c).quote _
  exact ⟨by simp [jsonFields, headMems, hq], jsonUnquote_jsonQuote _ hu⟩

/-- The escaping of the model is the escaping of the code (regenerated): the table of ASCII bytes that
    are copied as they are is `safeSet`, byte for byte; the bytes with a short escape are the cases of
    the byte switch; the only code points the function compares against are U+FFFD (an undecodable
    byte), U+2028 and U+2029 - every other code point is copied; and the literal pieces it writes are
    `u00`, `\ufffd` and `\u202`. -/
theorem json_escape_follows_the_code :
    (∀ n, n < 128 → jsonSafe (UInt8.ofNat n) = Gen.jsonSafeSet.getD n false) ∧ Gen.jsonSafeSet.length = 128 ∧
    Gen.jsonEscRunes = [runeError, 0x2028, 0x2029] ∧
    Gen.jsonEscCases = ["92", "34", "10", "13", "9", "default"] ∧
    Gen.jsonEscLits = ["u00", "\\ufffd", "\\u202"] := by
  -- the regenerated table is `jsonSafe` tabulated over 0 … 127 (evaluated by the kernel: 128 entries)
  have table : Gen.jsonSafeSet = (List.range 128).map fun n => jsonSafe (UInt8.ofNat n) := by decide +kernel
  refine ⟨fun n hn => ?_, ?_, rfl, rfl, rfl⟩
  · simp [table, hn]
  · simp [table]

-- non-vacuity: the reader on a line with a forged member inside a string, a nested object and an array
example : jsonMembers [123, 34, 97, 34, 58, 34, 120, 92, 34, 44, 34, 98, 34, 58, 49, 34, 44, 34, 103, 34, 58, 123, 34, 107, 34, 58, 91, 49, 44, 50, 93, 125, 125] =
    some [([34, 97, 34], [34, 120, 92, 34, 44, 34, 98, 34, 58, 49, 34]), ([34, 103, 34], [123, 34, 107, 34, 58, 91, 49, 44, 50, 93, 125])] := by
  decide

-- non-vacuity: BEL, VT, an invalid byte and U+2028 inside a string
example : jsonQuote [7, 11, 255, 0xE2, 0x80, 0xA8] =
    [34, 92, 117, 48, 48, 48, 55, 92, 117, 48, 48, 48, 98, 92, 117, 102, 102, 102, 100, 92, 117, 50, 48, 50, 56, 34] := by decide

end Logg.Props.C04
