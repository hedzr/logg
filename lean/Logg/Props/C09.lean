/-
  C09 — History independence: a record's bytes depend only on that call.

  In the model the payload is `encodeRecord fmt isPrint presentation depth record`: a function of the
  call (configuration, severity, timestamp text, message, attributes) and of the global presentation
  settings — there is no hidden state, so independence from the history holds by construction. What
  ties this to the code, where formatting goes through a pooled, recycled PrintCtx, is (a) the
  byte-exact correspondence after arbitrary histories and adversarially seeded pool contents, and
  (b) the regenerated structural facts below: every field of PrintCtx is either reset by set/setentry,
  or written before it is read, or restored after each use, or constant.
-/
import Logg.Model.Encoder
import Logg.Gen.Facts

namespace Logg.Props.C09
open Logg

/-- fields re-initialised for every record by `PrintCtx.set` / `setentry` (regenerated) -/
def resetPerRecord : List String := Gen.setAssigns ++ Gen.setentryAssigns

/-- fields the encoder writes before it reads them within one record (colored mode: the message split;
    the caller / error source cache is fully overwritten by Extract before use) -/
def writtenBeforeRead : List String := ["firstLine", "restLines", "eol", "cachedSource"]

/-- fields saved on entry and restored on exit of every use (dotted-key prefix, nested-object comma
    switch), or never set to anything but their initial value -/
def selfRestoring : List String := ["prefix", "skipComma", "inGroupedMode"]

/-- fields that never change after construction -/
def constants : List String := ["noQuoted", "dedupeAttrs"]

/-- read position bookkeeping of the buffer API (only user marshallers move it; outside the domain) -/
def bufferBookkeeping : List String := ["off", "lastRead"]

/-- (1) Every field of the pooled PrintCtx, as the struct is declared now, falls in one of these
    classes: nothing a record leaves behind in a recycled context can reach the next record. A new field
    (a cache, a flag) that is not reset makes this fail. -/
theorem every_field_accounted_for :
    ∀ f ∈ Gen.printCtxFields,
      f ∈ resetPerRecord ∨ f ∈ writtenBeforeRead ∨ f ∈ selfRestoring ∨ f ∈ constants ∨ f ∈ bufferBookkeeping := by
  -- a finite table of strings; comparing strings is slow in the elaborator's own evaluation, so only the kernel evaluates
  decide +kernel

/-- (1b) The fields classed as constants are constants of the code as it is now (regenerated): no
    statement of the package assigns a field of that name, increments it or takes its address; they
    keep the value the constructor gave them, in every context of the pool alike. -/
theorem constants_are_never_assigned : ∀ f ∈ constants, f ∉ Gen.printCtxFieldNamesAssigned := by
  decide +kernel

/-- (2) In particular the colours (the field pair that leaked into levels without registered colours),
    the mode bits, the layout, the severity, the message, the attributes and the timestamp are reset. -/
theorem reset_includes_the_call :
    ∀ f ∈ ["clr", "bg", "jsonMode", "noColor", "layout", "utcTime", "lvl", "msg", "kvps", "now", "stackFrame", "buf", "valueStringer"],
      f ∈ resetPerRecord := by
  decide +kernel

/-- (3) The context is taken from the pool, set, used and returned — in this order, once. -/
theorem pool_bracket : Gen.printBracket = ["Get", "set", "printImpl", "Put"] ∧ Gen.setCallsSetentry = true := by
  decide

/-- (4) History independence of the model: two calls with the same configuration and the same record
    produce the same bytes, whatever was formatted before (the model has no other input). -/
theorem same_call_same_bytes (f : Fmt) (isPrint : Nat → Bool) (p : Presentation) (depth : Nat) (r₁ r₂ : Record)
    (h : r₁ = r₂) : encodeRecord f isPrint p depth r₁ = encodeRecord f isPrint p depth r₂ := by
  rw [h]

/-- Levels without registered colours get the fixed default colours. -/
theorem unregistered_level_colors_fixed (p : Presentation) (lvl : Int) (h : p.colors.lookup lvl = none) :
    levelColors p lvl = (95, -1) := by
  simp [levelColors, h]

end Logg.Props.C09
