/-
  C13 — Failing destinations: bounded reaction, no lost records elsewhere, recovery.
  `Gen.warnOnFailure` is regenerated from the error branch of printOut, `Gen.lwsWriteEarlyExit`
  / `Gen.lwsWriteLoops` / `Gen.printOutSeq` from LWs.Write and printOut.
-/
import Logg.Props.C03
import Logg.Gen.Facts

namespace Logg.Props.C13
open Logg

/-- (0) The structural facts the delivery model rests on: `LWs.Write` is one loop over all
    members with no early exit; `printOut` performs tell → one Write → (maybe) Warn. -/
theorem fanout_facts :
    Gen.lwsWriteLoops = 1 ∧ Gen.lwsWriteEarlyExit = false ∧ Gen.writesPerPrintOut = 1 ∧
    Gen.printOutSeq = ["tell", "write", "warn"] ∧ Gen.printOutExitsBeforeWrite = 0 := ⟨rfl, rfl, rfl, rfl, rfl⟩

/-- The reaction condition, as the code says it now: a failure, and the record is not a warning. -/
theorem warnOnFailure_spec (failed : Bool) (lvl : Int) :
    Gen.warnOnFailure failed lvl = (failed && lvl != Lv.warn) := by
  simp [Gen.warnOnFailure, Lv.warn]

theorem emitRecord_eq (c : CallCtx) (n : Nat) (sev : Int) :
    emitRecord c n sev = deliver c.settable c.fails n (routeSpec c.g c.cfg sev) sev := by
  rw [emitRecord, C03.route_is_spec]

/-- `logCall` with the nested reaction flattened: the three conditions of a diagnostic in one test. -/
theorem logCall_eq (c : CallCtx) (n : Nat) (sev : Int) :
    logCall c n sev =
      if Gen.enabled c.g c.level sev then
        if (emitRecord c n sev).2.1 = true ∧ sev ≠ Lv.warn ∧ Gen.enabled c.g c.level Lv.warn = true then
          ([(emitRecord c n sev).1, (emitRecord c (emitRecord c n sev).2.2 Lv.warn).1],
            (emitRecord c (emitRecord c n sev).2.2 Lv.warn).2.2)
        else ([(emitRecord c n sev).1], (emitRecord c n sev).2.2)
      else ([], n) := by
  unfold logCall warnRecord
  cases Gen.enabled c.g c.level sev
  · rfl
  rw [if_pos rfl, if_pos rfl]
  rcases emitRecord c n sev with ⟨ev, failed, next⟩
  simp only [warnOnFailure_spec]
  cases failed
  · rfl
  by_cases hs : sev = Lv.warn
  · subst hs; rfl
  have hs' : (sev != Lv.warn) = true := bne_iff_ne.mpr hs
  cases hw : Gen.enabled c.g c.level Lv.warn <;> simp [hs, hs']

/-- (1) At most one diagnostic per user call, whatever fails: never a cascade. (The call always
    returns: `logCall` is a total function.) -/
theorem at_most_one_diagnostic (c : CallCtx) (start : Nat) (sev : Int) : (logCall c start sev).1.length ≤ 2 := by
  rw [logCall_eq]
  split
  · split <;> simp
  · simp

/-- (5b) The converse of (5): a second record appears only if an attempt of the call's own record
    failed, the record was not a warning, the call was admitted and the logger admits warnings —
    so over a history there are never more diagnostics than calls with a failed attempt. -/
theorem diagnostic_only_after_failure (c : CallCtx) (start : Nat) (sev : Int)
    (h : (logCall c start sev).1.length = 2) :
    Gen.enabled c.g c.level sev = true ∧ (emitRecord c start sev).2.1 = true ∧ sev ≠ Lv.warn ∧
    Gen.enabled c.g c.level Lv.warn = true := by
  rw [logCall_eq] at h
  split at h
  next ha =>
    split at h
    next hd => exact ⟨ha, hd⟩
    next => simp at h
  next => simp at h

theorem no_diagnostic (c : CallCtx) (n : Nat) (sev : Int)
    (h : ¬((emitRecord c n sev).2.1 = true ∧ sev ≠ Lv.warn ∧ Gen.enabled c.g c.level Lv.warn = true)) :
    (logCall c n sev).1.length ≤ 1 := by
  rw [logCall_eq, if_neg h]
  split <;> simp

/-- (2) None if the failing record was itself a warning. -/
theorem no_diagnostic_for_warnings (c : CallCtx) (start : Nat) : (logCall c start Lv.warn).1.length ≤ 1 :=
  no_diagnostic c start _ fun h => h.2.1 rfl

/-- (3) None if the logger does not admit warnings (the diagnostic is gated like any call). -/
theorem no_diagnostic_if_warn_not_admitted (c : CallCtx) (start : Nat) (sev : Int)
    (h : Gen.enabled c.g c.level Lv.warn = false) : (logCall c start sev).1.length ≤ 1 :=
  no_diagnostic c start sev fun h' => Bool.false_ne_true (h ▸ h'.2.2)

theorem emitRecord_healthy (c : CallCtx) (n : Nat) (sev : Int) (h : ∀ n, c.fails n = false) :
    (emitRecord c n sev).2.1 = false := by
  simp [emitRecord, deliver, h]

/-- with healthy destinations a call is its one record, if admitted -/
theorem logCall_healthy (c : CallCtx) (n : Nat) (sev : Int) (hh : ∀ n, c.fails n = false) :
    logCall c n sev =
      if Gen.enabled c.g c.level sev then ([(emitRecord c n sev).1], (emitRecord c n sev).2.2) else ([], n) := by
  rw [logCall_eq, if_neg (c := _ ∧ _) fun h => Bool.false_ne_true ((emitRecord_healthy c n sev hh).symm.trans h.1)]

/-- (4) None without a failure. -/
theorem no_diagnostic_without_failure (c : CallCtx) (start : Nat) (sev : Int) (h : ∀ n, c.fails n = false) :
    (logCall c start sev).1.length ≤ 1 :=
  no_diagnostic c start sev fun h' => Bool.false_ne_true ((emitRecord_healthy c start sev h).symm.trans h'.1)

/-- (5) Exactly one, routed as a warning, when an attempt of the record fails, the record is not
    a warning and the logger admits warnings. -/
theorem one_diagnostic_routed_as_warning (c : CallCtx) (start : Nat) (sev : Int)
    (ha : Gen.enabled c.g c.level sev = true) (hw : Gen.enabled c.g c.level Lv.warn = true) (hs : sev ≠ Lv.warn)
    (hf : (emitRecord c start sev).2.1 = true) :
    (logCall c start sev).1 =
      [(emitRecord c start sev).1,
       (deliver c.settable c.fails (emitRecord c start sev).2.2 (routeSpec c.g c.cfg Lv.warn) Lv.warn).1] := by
  rw [logCall_eq, if_pos ha, if_pos ⟨hf, hs, hw⟩, emitRecord_eq c _ Lv.warn]

/-- (6) Every destination selected for the record still gets exactly one attempt with it,
    whichever of the attempts fail. -/
theorem siblings_served (c : CallCtx) (start : Nat) (sev : Int) :
    (((emitRecord c start sev).1.filter C03.isWrite).map C03.eventWriter) = routeSpec c.g c.cfg sev := by
  rw [emitRecord_eq]
  exact C03.deliver_writes ..

/-- (7) A call that is not admitted touches no destination and consumes no attempt. -/
theorem not_admitted_silent (c : CallCtx) (start : Nat) (sev : Int) (h : Gen.enabled c.g c.level sev = false) :
    logCall c start sev = ([], start) := by
  simp [logCall, h]

/-- (8) No sticky state: what a call does depends on earlier failures only through where the
    failure schedule stands — a call at attempt index `start` behaves exactly like the same call
    on a fresh logger with the remaining schedule. The configuration is never changed by a call. -/
theorem no_sticky_state (c : CallCtx) (start : Nat) (sev : Int) :
    (logCall c start sev).1 = (logCall { c with fails := fun i => c.fails (start + i) } 0 sev).1 := by
  -- `deliver` reads the schedule only at `start + i`: both sides unfold to the same events
  simp only [logCall_eq, emitRecord, deliver, apply_ite Prod.fst, Nat.zero_add, Nat.add_assoc]

-- non-vacuity: one normal writer that fails on the first attempt; the Info record is followed by one warning
example :
    (logCall { g := { errorDevice := [(3, true)] }, level := 4, cfg := some { normal := [5], error := [6], leveled := [] },
               settable := fun _ => false, fails := fun n => n == 0 } 0 4).1
      = [[.write 5 false], [.write 6 true]] := by decide

/-! ### Sequences of calls (the property quantifies over fault sequences across calls) -/

/-- The attempt counter only moves forward. -/
theorem emit_counter (c : CallCtx) (start : Nat) (sev : Int) : start ≤ (emitRecord c start sev).2.2 :=
  Nat.le_add_right ..

theorem counter_monotone (c : CallCtx) (start : Nat) (sev : Int) : start ≤ (logCall c start sev).2 := by
  rw [logCall_eq]
  split
  · split
    · exact Nat.le_trans (emit_counter ..) (emit_counter ..)
    · exact emit_counter ..
  · exact Nat.le_refl _

/-- (9) Over any sequence of calls and any failure schedule: one entry per call, and every call
    produces at most two records (its own and at most one diagnostic) — the reaction is bounded
    per call for the whole history, so a history of `n` calls never produces more than `2 n`. -/
theorem sequence_bounded (c : CallCtx) (start : Nat) (sevs : List Int) :
    (runCalls c start sevs).1.length = sevs.length ∧ ∀ recs ∈ (runCalls c start sevs).1, recs.length ≤ 2 := by
  induction sevs generalizing start with
  | nil => simp [runCalls]
  | cons sev rest ih =>
    have h := ih (logCall c start sev).2
    simp only [runCalls, List.length_cons, h.1, List.forall_mem_cons]
    exact ⟨trivial, at_most_one_diagnostic c start sev, h.2⟩

/-- From an attempt index on from which every call yields what `f` says, whatever the index, a history is `f`
    mapped over its calls. -/
theorem runCalls_eq_map (c : CallCtx) (f : Int → List (List WEvent)) (start : Nat) (sevs : List Int)
    (h : ∀ n, start ≤ n → ∀ sev, (logCall c n sev).1 = f sev) : (runCalls c start sevs).1 = sevs.map f := by
  induction sevs generalizing start with
  | nil => rfl
  | cons sev rest ih =>
    simp only [runCalls, List.map_cons]
    rw [h start (Nat.le_refl _) sev, ih _ fun n hn => h n (Nat.le_trans (counter_monotone c start sev) hn)]

/-- One call after the failures are over behaves like the same call on a logger whose
    destinations never failed. -/
theorem call_after_recovery (c : CallCtx) (start start' : Nat) (sev : Int)
    (h : ∀ n, start ≤ n → c.fails n = false) :
    (logCall c start sev).1 = (logCall { c with fails := fun _ => false } start' sev).1 := by
  rw [no_sticky_state c start sev, no_sticky_state { c with fails := fun _ => false } start' sev]
  simp only [h _ (Nat.le_add_right ..)]

/-- (10) Recovery, for whole histories: once the schedule holds no further failure (every
    destination works again from attempt `start` on), every later call — whatever happened
    before, however many failures and diagnostics — produces exactly what a logger whose
    destinations never failed produces: every selected destination is written successfully and
    no diagnostic appears. -/
theorem recovery (c : CallCtx) (start start' : Nat) (sevs : List Int)
    (h : ∀ n, start ≤ n → c.fails n = false) :
    (runCalls c start sevs).1 = (runCalls { c with fails := fun _ => false } start' sevs).1 :=
  let c' : CallCtx := { c with fails := fun _ => false }
  (runCalls_eq_map c (logCall c' 0 · |>.1) start sevs fun n hn sev =>
      call_after_recovery c n 0 sev fun m hm => h m (Nat.le_trans hn hm)).trans
    (runCalls_eq_map c' _ start' sevs fun n _ sev => call_after_recovery c' n 0 sev fun _ _ => rfl).symm

/-- (11) A history splits at any point: the calls after the first `k` behave as a run that
    starts where the first `k` left the schedule — no other state is carried across calls. -/
theorem history_splits (c : CallCtx) (start : Nat) (xs ys : List Int) :
    (runCalls c start (xs ++ ys)).1 = (runCalls c start xs).1 ++ (runCalls c (runCalls c start xs).2 ys).1 := by
  induction xs generalizing start with
  | nil => simp [runCalls]
  | cons x xs ih => simp [runCalls, ih]

-- non-vacuity: the only destination fails on the first two attempts, then works: the first Info
-- call yields the record and a (failing) warning, the second call is delivered normally.
example :
    (runCalls { g := { errorDevice := [(3, true)] }, level := 4, cfg := some { normal := [5], error := [5], leveled := [] },
                settable := fun _ => false, fails := fun n => n < 2 } 0 [4, 4]).1
      = [[[.write 5 false], [.write 5 false]], [[.write 5 true]]] := by decide

end Logg.Props.C13
