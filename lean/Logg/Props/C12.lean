/-
  C12 — Panic and Fatal: the record is written first, then the documented termination.
  `Gen.terminate` is regenerated from the tail of Entry.logContext, `Gen.logContextSeq` from
  the order of its calls, `Gen.exitCode` / `Gen.panicValue` from its literals.
-/
import Logg.Model.Terminate
import Logg.Lemmas.Bits
import Logg.Lemmas.Assoc
import Logg.Props.C01

namespace Logg.Props.C12
open Logg

theorem flag_constants : Gen.LnoInterrupt = Fl.noInterrupt ∧ Gen.Linterruptalways = Fl.interruptAlways := by
  decide

/-- (1) The tail of `logContext`, as the code says it now, is the termination rule of the
    statement — for every severity (any integer), every flag word, both process modes. -/
theorem terminate_is_spec (g : Globals) (lvl : Int) : Gen.terminate g lvl = terminateSpec g lvl := by
  -- the code tests no-interrupt as "all bits set", the statement as "any bit set": the same for one bit; then
  -- the three Boolean atoms are decided and one `simp` per leaf sees both definitions
  have h20 : (Nat.land g.flags 1048576 == 1048576) = (Nat.land g.flags 1048576 != 0) :=
    Lemmas.land_single_bit g.flags 20
  unfold Gen.terminate terminateSpec flagSet Fl.interruptAlways Fl.noInterrupt Lv.panic Lv.fatal
  rw [h20]
  show _ = ite ((!g.inTesting || Nat.land g.flags 2097152 != 0) && !Nat.land g.flags 1048576 != 0) _ _
  cases g.inTesting <;> cases (Nat.land g.flags 2097152 != 0) <;> cases (Nat.land g.flags 1048576 != 0) <;> simp

/-- (2) No other severity ever panics or exits — including custom levels treated as Panic. -/
theorem others_never_terminate (g : Globals) (lvl : Int) (h0 : lvl ≠ Lv.panic) (h1 : lvl ≠ Lv.fatal) :
    Gen.terminate g lvl = .continue := by
  rw [terminate_is_spec, terminateSpec, if_neg h0, if_neg h1, ite_self]

/-- (3) No termination with the no-interrupt flag; none under go test without interrupt-always. -/
theorem noInterrupt_suppresses (g : Globals) (lvl : Int) (h : flagSet g.flags Fl.noInterrupt = true) :
    Gen.terminate g lvl = .continue := by
  rw [terminate_is_spec]; simp [terminateSpec, h]

theorem testing_suppresses (g : Globals) (lvl : Int) (ht : g.inTesting = true)
    (h : flagSet g.flags Fl.interruptAlways = false) : Gen.terminate g lvl = .continue := by
  rw [terminate_is_spec]; simp [terminateSpec, ht, h]

/-- (4) Otherwise Panic panics and Fatal exits with status 253 (= -3 mod 256). -/
theorem panic_and_fatal_terminate (g : Globals)
    (h : (!g.inTesting || flagSet g.flags Fl.interruptAlways) = true) (hn : flagSet g.flags Fl.noInterrupt = false) :
    Gen.terminate g Lv.panic = .panic ∧ Gen.terminate g Lv.fatal = .exit (-3) ∧
    Gen.exitCode = -3 ∧ exitStatus Gen.exitCode = 253 := by
  refine ⟨?_, ?_, by decide, by decide⟩ <;> rw [terminate_is_spec] <;> simp [terminateSpec, h, hn] <;> decide

/-- (5) The record is written first: in `logContext` the `print` call precedes both `panic`
    and `os.Exit`, and the panic value is the message. -/
theorem record_first :
    Gen.logContextSeq.idxOf "print" < Gen.logContextSeq.idxOf "panic" ∧
    Gen.logContextSeq.idxOf "print" < Gen.logContextSeq.idxOf "exit" ∧
    "print" ∈ Gen.logContextSeq ∧ Gen.panicValue = "msg" := by decide

/-- The outcome of a call through a site of a public entry point: the termination tail is
    only reached if the gate let the call into `logContext`. -/
def callOutcome (g : Globals) (L arg : Int) (s : EmitSite) : Outcome :=
  if C01.siteEmits g L arg s then Gen.terminate g (C01.siteSeverity arg s) else .continue

/-- (6) A call that is not admitted never terminates, at any entry point. -/
theorem not_admitted_never_terminates (g : Globals) (L arg : Int) :
    ∀ ep ∈ Gen.entryPoints, ∀ s ∈ ep.sites,
      admits g L (C01.siteSeverity arg s) = false → callOutcome g L arg s = .continue := by
  intro ep hep s hs hna
  simp [callOutcome, C01.emits_iff_admitted g L arg ep hep s hs, hna]

private theorem ite_ne {α} {c : Prop} [Decidable c] {a b x : α} (ha : a ≠ x) (hb : b ≠ x) : ite c a b ≠ x := by
  split <;> assumption

/-- (7) Wherever a log/slog level is accepted, only the explicit Panic / Fatal constants reach a
    terminating severity — for all integer level values. -/
theorem slog_levels_terminate_only_explicitly (l : Int) :
    (Gen.logsloglevel2Level l = Lv.panic → l = Gen.LevelPanic) ∧
    (Gen.logsloglevel2Level l = Lv.fatal → l = Gen.LevelFatal) := by
  -- away from the explicit constant its branch is gone, and every other branch returns a different constant
  constructor
  · refine fun h => Decidable.by_contra fun hl => ?_
    have e : (l == 17) = false := beq_false_of_ne hl
    revert h
    simp only [Gen.logsloglevel2Level, e, Lv.panic, Bool.false_eq_true, if_false]
    repeat' apply ite_ne
    all_goals decide
  · refine fun h => Decidable.by_contra fun hl => ?_
    have e : (l == 16) = false := beq_false_of_ne hl
    revert h
    simp only [Gen.logsloglevel2Level, e, Lv.fatal, Bool.false_eq_true, if_false]
    repeat' apply ite_ne
    all_goals decide

theorem slog_handler_levels_never_terminate (l : Int) :
    Gen.convertLogSlogLevel l ≠ Lv.panic ∧ Gen.convertLogSlogLevel l ≠ Lv.fatal := by
  have tbl : ∀ p ∈ Gen.mLogSlogLevelToLevel, p.2 ≠ Lv.panic ∧ p.2 ≠ Lv.fatal := by decide
  unfold Gen.convertLogSlogLevel
  cases h : List.lookup l Gen.mLogSlogLevelToLevel with
  | none => decide
  | some v => exact tbl _ (Lemmas.mem_of_lookup h)

-- non-vacuity: production Panic terminates; with no-interrupt it does not; under test only with interrupt-always
example : Gen.terminate { inTesting := false, flags := 0 } 0 = .panic ∧
          Gen.terminate { inTesting := false, flags := 2 ^ 20 } 0 = .continue ∧
          Gen.terminate { inTesting := true, flags := 0 } 1 = .continue ∧
          Gen.terminate { inTesting := true, flags := 2 ^ 21 } 1 = .exit (-3) ∧
          Gen.terminate { inTesting := true, flags := 2 ^ 21 + 2 ^ 20 } 1 = .continue := by decide

/-- A program of calls (severities) on a logger of level `L`: the records emitted, in order, and
    how the program ends. A terminating call ends it after its own record. -/
def runProgram (g : Globals) (L : Int) : List Int → List Int × Outcome
  | [] => ([], .continue)
  | s :: rest =>
    if Gen.enabled g L s then
      if Gen.terminate g s = .continue then ((s :: (runProgram g L rest).1), (runProgram g L rest).2)
      else ([s], Gen.terminate g s)
    else runProgram g L rest

/-- (10) A program without Panic / Fatal calls runs to its end, whatever the flags, and emits
    exactly its admitted calls, in order. -/
theorem program_runs_through (g : Globals) (L : Int) (sevs : List Int)
    (h : ∀ s ∈ sevs, s ≠ Lv.panic ∧ s ≠ Lv.fatal) :
    runProgram g L sevs = (sevs.filter (fun s => Gen.enabled g L s), .continue) := by
  induction sevs with
  | nil => rfl
  | cons s rest ih =>
    have hs := h s (by simp)
    have ih' := ih (fun x hx => h x (by simp [hx]))
    have ht : Gen.terminate g s = .continue := others_never_terminate g s hs.1 hs.2
    by_cases ha : Gen.enabled g L s = true
    · simp [runProgram, ha, ht, ih']
    · have ha' : Gen.enabled g L s = false := by simpa using ha
      simp [runProgram, ha', ih']

/-- (11) Record first, for whole programs: when a program is ended by a call, that call's record
    is the last one emitted — it was written before the process panicked or exited — and nothing
    after it is emitted. -/
theorem terminating_record_is_last (g : Globals) (L : Int) (sevs : List Int)
    (h : (runProgram g L sevs).2 ≠ .continue) :
    ∃ s, (runProgram g L sevs).1.getLast? = some s ∧ Gen.enabled g L s = true ∧
      Gen.terminate g s = (runProgram g L sevs).2 := by
  induction sevs with
  | nil => exact absurd rfl h
  | cons s rest ih =>
    unfold runProgram at h ⊢
    by_cases ha : Gen.enabled g L s = true
    · by_cases ht : Gen.terminate g s = .continue
      · rw [if_pos ha, if_pos ht] at h ⊢
        obtain ⟨s', hl, he, hx⟩ := ih h
        exact ⟨s', by rw [List.getLast?_cons, hl]; rfl, he, hx⟩
      · rw [if_pos ha, if_neg ht]
        exact ⟨s, rfl, ha, rfl⟩
    · rw [if_neg ha] at h ⊢
      exact ih h

-- non-vacuity: a production Info logger; Info, Debug (not admitted), Fatal, Info: the Fatal record is
-- written, then the process exits with 253 (-3), the last call is never reached
example : runProgram { inTesting := false, flags := 0 } 4 [4, 5, 1, 4] = ([4, 1], .exit (-3)) := by decide

end Logg.Props.C12
