/-
  C15 — log/slog handler and std log bridge preserve content, severity and gating.
  `Gen.convertLogSlogLevel`, `Gen.handlerEnabled`, `Gen.bridgeAdmits`, `Gen.logsloglevel2Level`,
  the level tables and the mode setters are regenerated from the source.
-/
import Logg.Model.Adapter
import Logg.Gen.Facts
import Logg.Props.C02
import Logg.Props.C11
import Logg.Props.C12

namespace Logg.Props.C15
open Logg

/-! ### content: every attribute, every kind, groups nested, LogValuers resolved -/

mutual
/-- the content of log/slog attributes as the statement reads them: the scalar leaves with their
    key paths, in order, LogValuers replaced by what they resolve to -/
def sLeavesVal (path : List Bytes) : SVal → List (List Bytes × Val)
  | .bool b => [(path, .bool b)]
  | .time t => [(path, .time t)]
  | .dur t => [(path, .dur t)]
  | .float t => [(path, .float t)]
  | .int i => [(path, .int i)]
  | .str s => [(path, .str s)]
  | .uint n => [(path, .uint n)]
  | .group items => sLeaves path items
  | .valuer v => sLeavesVal path v
  | .any v => [(path, v)]
def sLeaves (path : List Bytes) : SAttrs → List (List Bytes × Val)
  | .nil => []
  | .cons k v rest => sLeavesVal (path ++ [k]) v ++ sLeaves path rest
end

mutual
/-- the same reading of the library's own attributes (nil attributes carry nothing); `fuel`
    bounds the nesting depth looked at -/
def leavesVal : Nat → List Bytes → Val → List (List Bytes × Val)
  | fuel + 1, path, .group items => leaves fuel path items
  | 0, _, .group _ => []
  | _, path, v => [(path, v)]
def leaves : Nat → List Bytes → List Attr → List (List Bytes × Val)
  | _, _, [] => []
  | fuel, path, none :: rest => leaves fuel path rest
  | fuel, path, some (k, _, v) :: rest => leavesVal fuel (path ++ [k]) v ++ leaves fuel path rest
end

mutual
def sDepthVal : SVal → Nat
  | .group items => sDepth items + 1
  | .valuer v => sDepthVal v
  | _ => 0
def sDepth : SAttrs → Nat
  | .nil => 0
  | .cons _ v rest => max (sDepthVal v) (sDepth rest)
end

def Val.isGroup : Val → Bool
  | .group _ => true
  | _ => false

mutual
/-- a KindAny value never holds the library's own group type (log/slog has KindGroup for that) -/
def anyScalarVal : SVal → Bool
  | .group items => anyScalar items
  | .valuer v => anyScalarVal v
  | .any v => !Val.isGroup v
  | _ => true
def anyScalar : SAttrs → Bool
  | .nil => true
  | .cons _ v rest => anyScalarVal v && anyScalar rest
end

theorem leavesVal_scalar (fuel : Nat) (path : List Bytes) (v : Val) (h : Val.isGroup v = false) :
    leavesVal fuel path v = [(path, v)] := by
  fun_cases leavesVal fuel path v with
  | case1 => cases h
  | case2 => cases h
  | case3 => rfl

-- Each `exact` holds up to unfolding the conversion, the two readings and the two bounds at the constructor.
mutual
theorem leavesVal_convert (v : SVal) (fuel : Nat) (path : List Bytes) (h : sDepthVal v ≤ fuel) (ha : anyScalarVal v = true) :
    leavesVal fuel path (convertVal v).2 = sLeavesVal path v := by
  cases v with
  | group items =>
    cases fuel with
    | zero => exact absurd h (Nat.not_succ_le_zero _)
    | succ f => exact leaves_convert items f path (Nat.le_of_succ_le_succ h) ha
  | valuer w => exact leavesVal_convert w fuel path h ha
  | any w => exact leavesVal_scalar fuel path w ((Bool.not_eq_true' (Val.isGroup w)).mp ha)
  | _ => exact leavesVal_scalar fuel path _ rfl
theorem leaves_convert (as : SAttrs) (fuel : Nat) (path : List Bytes) (h : sDepth as ≤ fuel) (ha : anyScalar as = true) :
    leaves fuel path (convertAttrs as) = sLeaves path as := by
  cases as with
  | nil => rfl
  | cons k v rest =>
    have hd : sDepthVal v ≤ fuel ∧ sDepth rest ≤ fuel := Nat.max_le.1 h
    have hs : anyScalarVal v = true ∧ anyScalar rest = true := Bool.and_eq_true_iff.1 ha
    show leavesVal fuel (path ++ [k]) (convertVal v).2 ++ leaves fuel path (convertAttrs rest) = _
    rw [leavesVal_convert v fuel _ hd.1 hs.1, leaves_convert rest fuel path hd.2 hs.2]
    rfl
end

/-- (1) Content: the converted attributes carry exactly the leaves of the record's attributes —
    every kind, nested groups under their key paths, LogValuers (chains too, and inside groups)
    replaced by what they resolve to; none lost, none invented, order kept. -/
theorem content_preserved (as : SAttrs) (h : anyScalar as = true) :
    leaves (sDepth as) [] (convertAttrs as) = sLeaves [] as :=
  leaves_convert as _ [] (Nat.le_refl _) h

/-- groups stay groups (printed without a `key=` of their own in the text formats), scalars scalars -/
theorem group_marking (items : SAttrs) (b : Bool) : (convertVal (.group items)).1 = true ∧ (convertVal (.bool b)).1 = false := by
  simp [convertVal]

/-! ### the conversion of the model is the switch of the code (regenerated) -/

/-- the kind of a log/slog value, under the name the code switches on -/
def kindOf : SVal → String
  | .bool _ => "KindBool" | .time _ => "KindTime" | .dur _ => "KindDuration" | .float _ => "KindFloat64"
  | .int _ => "KindInt64" | .str _ => "KindString" | .uint _ => "KindUint64" | .group _ => "KindGroup"
  | .valuer _ => "KindLogValuer" | .any _ => "default"

/-- what `convertVal` does with a value of that kind, spelled as the calls of the code: the constructor
    of the same name applied to the value read by the accessor of the same name; a group converted
    member by member; a LogValuer resolved and converted again; anything else handed on as it is -/
def howOf : SVal → String
  | .bool _ => "Bool>attr.Value.Bool" | .time _ => "Time>attr.Value.Time" | .dur _ => "Duration>attr.Value.Duration"
  | .float _ => "Float64>attr.Value.Float64" | .int _ => "Int64>attr.Value.Int64" | .str _ => "String>attr.Value.String"
  | .uint _ => "Uint64>attr.Value.Uint64" | .group _ => "Group>convertGroupToFields>attr.Value.Group"
  | .valuer _ => "convertAttrToField>attr.Value.Resolve" | .any _ => "Any>attr.Value.Any"

/-- (1b) For every log/slog value, the case the model's conversion takes is the case of the code's switch
    over `attr.Value.Kind()`, and the switch has no further case: ten kinds, no depth or size
    argument, no condition. -/
theorem convert_follows_the_switch (v : SVal) :
    (kindOf v, howOf v) ∈ Gen.convertKindTable ∧ Gen.convertKindTable.length = 10 := by
  refine ⟨?_, rfl⟩
  cases v <;> simp [kindOf, howOf, Gen.convertKindTable]

/-- (1c) The members of a group and the attributes of a record are converted one by one, all of
    them, unconditionally: the loops have no condition, no early exit and no other call. -/
theorem conversion_is_unconditional :
    Gen.convertGroupToFieldsCalls = ["append", "convertAttrToField"] ∧ Gen.convertGroupToFieldsConditions = 0 ∧
    Gen.convertLogSlogRecordAttrsCalls = ["make", "rec.NumAttrs", "rec.Attrs", "append", "convertAttrToField"] ∧
    Gen.convertLogSlogRecordAttrsConditions = 0 := ⟨rfl, rfl, rfl, rfl⟩

/-- (1d) `Handle` hands the record's own time, its message and the converted attributes to the
    logger (`WriteThru`, or `LogAttrs` for a logger that cannot take a time), whatever the context
    says, and has one way out: `return nil` at its end. -/
theorem handle_hands_over_the_record :
    Gen.handleReturns = ["nil"] ∧ Gen.handleWriteThru = ["ctx,lvl,rec.Time,rec.PC,rec.Message,fields"] ∧
    Gen.handleLogAttrs = ["ctx,lvl,rec.Message,fields"] := ⟨rfl, rfl, rfl⟩

/-- (2) The four standard log/slog levels map to their namesakes, in the handler and wherever a
    log/slog level is accepted (`Entry.Log`). -/
theorem standard_levels_namesakes :
    Gen.convertLogSlogLevel (-4) = Lv.debug ∧ Gen.convertLogSlogLevel 0 = Lv.info ∧
    Gen.convertLogSlogLevel 4 = Lv.warn ∧ Gen.convertLogSlogLevel 8 = Lv.error ∧
    Gen.logsloglevel2Level (-4) = Lv.debug ∧ Gen.logsloglevel2Level 0 = Lv.info ∧
    Gen.logsloglevel2Level 4 = Lv.warn ∧ Gen.logsloglevel2Level 8 = Lv.error := by decide

/-- (3) No log/slog level value reaches a terminating severity through the handler; through
    `Entry.Log` only the explicit LevelFatal / LevelPanic constants do — for all integers. -/
theorem no_implicit_termination (l : Int) :
    Gen.convertLogSlogLevel l ≠ Lv.panic ∧ Gen.convertLogSlogLevel l ≠ Lv.fatal ∧
    (Gen.logsloglevel2Level l = Lv.panic → l = Gen.LevelPanic) ∧
    (Gen.logsloglevel2Level l = Lv.fatal → l = Gen.LevelFatal) :=
  ⟨(C12.slog_handler_levels_never_terminate l).1, (C12.slog_handler_levels_never_terminate l).2,
   (C12.slog_levels_terminate_only_explicitly l).1, (C12.slog_levels_terminate_only_explicitly l).2⟩

/-- (4) For Debug/Info/Warn/Error the handler's Enabled is exactly the logger's gate on the
    namesake severity — whatever the logger level, the registry and the debug mode. -/
theorem enabled_is_the_loggers_gate (g : Globals) (L l : Int) (h : l = -4 ∨ l = 0 ∨ l = 4 ∨ l = 8) :
    Gen.handlerEnabled g L l = Gen.enabled g L (Gen.convertLogSlogLevel l) := by
  rcases h with rfl | rfl | rfl | rfl <;> rfl

/-- other level values are always handed to Handle (and come out at Always) -/
theorem other_levels_enabled (g : Globals) (L l : Int) (h : l ≠ -4 ∧ l ≠ 0 ∧ l ≠ 4 ∧ l ≠ 8) :
    Gen.handlerEnabled g L l = true ∧ Gen.convertLogSlogLevel l = Lv.always := by
  simp [Gen.handlerEnabled, Gen.convertLogSlogLevel, Gen.mLogSlogLevelToLevel, List.lookup, Lv.always,
    beq_false_of_ne h.1, beq_false_of_ne h.2.1, beq_false_of_ne h.2.2.1, beq_false_of_ne h.2.2.2]

/-- (5) A handled record is written once to each destination selected for the converted
    severity, and every one of those Writes carries the same payload: the encoding of the same
    message, the record's own time text, the converted attributes — terminated by a line feed. -/
theorem handled_once (c : CallCtx) (k : CallShape) (l : Int) (msg : Bytes) (attrs : SAttrs) (ws : List (Wid × Bytes))
    (h : handleWrites c k l msg attrs = some ws) :
    ∃ payload,
      encodeRecord k.fmt isPrintTable k.present k.depth
        { lvl := Gen.convertLogSlogLevel l, ts := k.ts, name := k.name, msg := msg, attrs := convertAttrs attrs, caller := k.caller } = some payload ∧
      payload.getLast? = some 10 ∧
      ws.map Prod.fst = routeSpec c.g c.cfg (Gen.convertLogSlogLevel l) ∧ ∀ e ∈ ws, e.2 = payload :=
  C02.record_written_once h

/-- (6) What log/slog.Logger does with the handler: a standard level the logger does not admit
    produces no Write at all. -/
theorem not_enabled_silent (c : CallCtx) (k : CallShape) (l : Int) (msg : Bytes) (attrs : SAttrs)
    (h : Gen.handlerEnabled c.g c.level l = false) : slogLoggerCall c k l msg attrs = some [] := by
  simp [slogLoggerCall, h]

/-- (7) The handler's format follows its options: JSON wins, otherwise NoColor selects logfmt. -/
theorem handler_format (o : HandlerOpts) (uj uc : Bool) :
    handlerFmt o uj uc = if o.json then .json else if o.noColor then .logfmt else .color := by
  rw [handlerFmt, C11.setColor_eq, C11.setJSON_eq]
  cases o.json <;> cases o.noColor <;> rfl

/-- (8) The bridge admits a message exactly when the logger admits the bridge's severity. -/
theorem bridge_admits_iff (g : Globals) (L s : Int) : Gen.bridgeAdmits g L s = Gen.enabled g L s := rfl

/-- what `log.Logger.Output` hands to the writer: the message with a line feed appended unless it
    already ends with one -/
def stdLogLine (m : Bytes) : Bytes := if m.getLast? == some 10 then m else m ++ [10]

/-- (9) The record's message is the std-log message minus its trailing newline: unchanged when it
    had none, shortened by exactly one line feed when it had (further line feeds are content). -/
theorem bridge_message (m : Bytes) :
    stripOneLF (stdLogLine m) = if m.getLast? == some 10 then m.dropLast else m := by
  unfold stripOneLF stdLogLine
  by_cases h : m.getLast? = some 10
  · simp [h]
  · simp [h]

/-- (10) An admitted message is one record at the bridge's severity, once per selected
    destination, and the writer reports the whole buffer as written; a message that is not
    admitted writes nothing. -/
theorem bridge_once (c : CallCtx) (k : CallShape) (s : Int) (buf : Bytes) :
    (Gen.enabled c.g c.level s = false → bridgeWrite c k s buf = (0, some [])) ∧
    (Gen.enabled c.g c.level s = true → ∀ ws, (bridgeWrite c k s buf).2 = some ws →
      (bridgeWrite c k s buf).1 = buf.length ∧
      ∃ payload,
        encodeRecord k.fmt isPrintTable k.present k.depth
          { lvl := s, ts := k.ts, name := k.name, msg := stripOneLF buf, attrs := [], caller := k.caller } = some payload ∧
        payload.getLast? = some 10 ∧ ws.map Prod.fst = routeSpec c.g c.cfg s ∧ ∀ e ∈ ws, e.2 = payload) := by
  unfold bridgeWrite
  rw [bridge_admits_iff]
  constructor <;> intro h
  · rw [h]; rfl
  · rw [h]
    exact fun ws hw => ⟨rfl, C02.record_written_once hw⟩

/-! ### derived handlers — the statement does not hold of the code (known finding) -/

/-- what a handler carries -/
structure HandlerState where
  cfg : WriterCfg
  useJSON : Bool
  useColor : Bool
  level : Int
  deriving DecidableEq

/-- `withFields`: `New().SetAttrs(fields...)` — a brand-new detached logger (package level
    `pkgLevel`, colored, no writers of its own); nothing of the receiver is kept -/
def deriveHandler (pkgLevel : Int) (_h : HandlerState) : HandlerState :=
  { cfg := none, useJSON := false, useColor := true, level := pkgLevel }

/-- The statement "handlers derived with WithAttrs/WithGroup keep the destination, format and
    level" is false of the code: witness — a JSON handler at Debug with its own destination. -/
theorem derived_handler_keeps_nothing_witness :
    ∃ h : HandlerState, ∃ pkgLevel, (deriveHandler pkgLevel h).cfg ≠ h.cfg ∧
      (deriveHandler pkgLevel h).useJSON ≠ h.useJSON ∧ (deriveHandler pkgLevel h).level ≠ h.level :=
  ⟨{ cfg := some { normal := [1], error := [2], leveled := [] }, useJSON := true, useColor := false, level := 5 }, 3, by decide⟩

/-- what does hold (partial): a derived handler converts attributes and levels exactly like its
    parent — the conversion functions do not depend on the handler. -/
theorem derived_partial (as : SAttrs) (h : anyScalar as = true) :
    leaves (sDepth as) [] (convertAttrs as) = sLeaves [] as := content_preserved as h

-- non-vacuity: a group holding a LogValuer that resolves to a group holding a string
example :
    sLeaves [] (.cons [103] (.group (.cons [118] (.valuer (.group (.cons [115] (.str [120]) .nil))) .nil)) .nil)
      = [([[103], [118], [115]], .str [120])] := by
  simp [sLeaves, sLeavesVal]

end Logg.Props.C15
