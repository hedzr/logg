/-
  C07 — Attribute assembly: sources, precedence, uniqueness and order.
  The guards of collectArgs / walkParentAttrs are regenerated (`Gen.collect*`, `Gen.walk*`);
  `Gen.sortFunc` names the sort the code calls.
-/
import Logg.Lemmas.KeyOrder
import Logg.Gen.Facts

namespace Logg.Props.C07
open Logg Logg.Lemmas

theorem flag_constant : Gen.LattrsR = Fl.attrsR := by decide

def inheritOn (g : Globals) : Bool := Nat.land g.flags Fl.attrsR != 0

/-- The walk yields the whole chain, outermost first, when the inherit flag is on, and the logger's own
    attributes otherwise — for chains of any depth and any (also empty) attribute lists. -/
theorem walk_spec (g : Globals) (chain : Chain) :
    walkParents g chain = if inheritOn g then chain.reverse.flatten else chain.headD [] := by
  have hr : Gen.walkRecurses g = inheritOn g := by simp [Gen.walkRecurses, inheritOn, Fl.attrsR]
  have hs : ∀ n, Gen.walkSkips g n = (n == 0 && !inheritOn g) := by
    intro n; simp [Gen.walkSkips, inheritOn, Fl.attrsR]
  induction chain with
  | nil => simp [walkParents]
  | cons own rest ih =>
    rw [walkParents, hr, hs, ih]
    cases inheritOn g
    · cases own <;> simp
    · simp

/-- A guard of `collectArgs` that only skips an empty source changes nothing. -/
theorem guarded_eq {α} (c : Bool) (l : List α) (h : c = false → l = []) : (if c then l else []) = l := by
  cases c
  · exact (h rfl).symm
  · rfl

/-- `collect_is_spec` for every chain, the empty one included. -/
theorem collect_eq (g : Globals) (nCtxKeys : Nat) (fromCtx : List KV) (chain : Chain) (args : List KV)
    (hctx : nCtxKeys = 0 → fromCtx = []) :
    collect g nCtxKeys fromCtx chain args = assembleSpec (inheritOn g) fromCtx chain args := by
  unfold collect assembleSpec
  rw [guarded_eq _ fromCtx, guarded_eq _ args, guarded_eq _ (walkParents g chain), walk_spec]
  · -- the walk is skipped only without inheritance and without own attributes, and then it would yield nothing
    intro h
    rw [walk_spec]
    simp_all [Gen.collectWalks, inheritOn, Fl.attrsR]
  · -- the arguments are skipped only when there are none
    simp [Gen.collectArgsGuard]
  · -- the context, when no context key is registered
    simpa [Gen.collectFromCtx] using hctx

/-- (1) Sources and order: context values, then ancestors outermost first when and only when the
    inherit flag is on, then the logger's own attributes, then the call's arguments. -/
theorem collect_is_spec (g : Globals) (nCtxKeys : Nat) (fromCtx : List KV) (chain : Chain) (args : List KV)
    (hctx : nCtxKeys = 0 → fromCtx = []) (hne : chain ≠ []) :
    collect g nCtxKeys fromCtx chain args = assembleSpec (inheritOn g) fromCtx chain args :=
  have _ := hne
  collect_eq g nCtxKeys fromCtx chain args hctx

def keyLt (a c : KV) : Prop := bytesLe a.key c.key = true ∧ a.key ≠ c.key

theorem dedupeLast_strict (s : List KV) (hs : Sorted s) : List.Pairwise keyLt (dedupeLast s) := by
  induction s with
  | nil => exact .nil
  | cons a t ih =>
    rw [dedupeLast_cons hs]
    by_cases hany : t.any (·.key == a.key) = true
    · rw [if_pos hany]; exact ih hs.of_cons
    · rw [if_neg hany]
      refine List.pairwise_cons.2 ⟨fun y hy => ?_, ih hs.of_cons⟩
      have hyt := (dedupeLast_sublist t).subset hy
      exact ⟨List.rel_of_pairwise_cons hs hyt, fun e => hany (List.any_eq_true.2 ⟨y, hyt, beq_iff_eq.2 e.symm⟩)⟩

/-- (2) Each distinct key is printed exactly once and attributes come in ascending key order:
    the emitted list is strictly ascending by key — for lists of any length. -/
theorem keys_strictly_ascending (xs : List KV) : List.Pairwise keyLt (emitAttrs xs) :=
  dedupeLast_strict _ (sorted_mergeSort xs)

/-- A strictly ascending list has no run to collapse. -/
theorem dedupeLast_of_strict (s : List KV) (h : List.Pairwise keyLt s) : dedupeLast s = s := by
  induction s with
  | nil => rfl
  | cons a t ih =>
    have hno : ¬ t.any (·.key == a.key) = true := fun hany => by
      obtain ⟨y, hy, hya⟩ := List.any_eq_true.1 hany
      exact (List.rel_of_pairwise_cons h hy).2 (beq_iff_eq.1 hya).symm
    rw [dedupeLast_cons (h.imp And.left), if_neg hno, ih h.of_cons]

/-- (2b) Preparing an already prepared list changes nothing: sorting and de-duplicating is
    idempotent, for lists of any length (so what a record carries after the first preparation is
    in its final form — no order or value can change on a second pass). -/
theorem emit_idempotent (xs : List KV) : emitAttrs (emitAttrs xs) = emitAttrs xs := by
  have hs := keys_strictly_ascending xs
  have hle : Sorted (emitAttrs xs) := hs.imp And.left
  rw [emitAttrs, List.mergeSort_of_pairwise hle, dedupeLast_of_strict _ hs]

/-- (3) Precedence: of several occurrences of a key the last one in assembly order wins — call
    site over logger over ancestor over context — for any number of attributes. -/
theorem last_occurrence_wins (xs : List KV) (k : Bytes) :
    (emitAttrs xs).find? (fun x => x.key == k) = (xs.filter (fun x => x.key == k)).getLast? := by
  rw [emitAttrs, dedupeLast_last _ (sorted_mergeSort xs) k, mergeSort_filter_key]

/-- The code sorts with the stable sort (the model's `mergeSort` is stable; an unstable sort would
    not be described by it). -/
theorem sort_is_stable : Gen.sortFunc = "SortStableFunc" ∧ Gen.sortsItsParameter = true := ⟨rfl, rfl⟩

-- non-vacuity: thirteen attributes with one repeated key; the value of the last occurrence is printed
example : (emitAttrs ((List.range 13).map fun i => { key := [107], vid := i })).find? (fun x => x.key == [107])
    = some { key := [107], vid := 12 } := by
  rw [last_occurrence_wins]; decide
example : dedupeLast [⟨[97], 2⟩, ⟨[97], 4⟩, ⟨[98], 1⟩, ⟨[98], 3⟩] = [⟨[97], 4⟩, ⟨[98], 3⟩] := by decide
example : collect { flags := 32 } 0 [] [[⟨[99], 1⟩], [], [⟨[97], 2⟩]] [⟨[100], 3⟩] = [⟨[97], 2⟩, ⟨[99], 1⟩, ⟨[100], 3⟩] := by decide

end Logg.Props.C07
