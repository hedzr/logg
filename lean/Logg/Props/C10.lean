/-
  C10 — Logger hierarchy: lookup by name, inheritance at creation, isolation afterwards.
  The Set… bodies used by the model are the regenerated setters (C11 / C16); writer operations
  are C03's `cfgStep`.
-/
import Logg.Lemmas.TreeLinks
import Logg.Gen.Facts

namespace Logg.Props.C10
open Logg

/-- (1) Every Set… call changes the receiver only and returns it: no other logger's level,
    format, attributes, skip count or writers move, and no logger appears or disappears. -/
theorem set_changes_receiver_only (t : Tree) (i : Nat) (s : Setting) (hi : i < t.length) :
    (treeStep t (.set i s)).2 = some i ∧ (treeStep t (.set i s)).1.length = t.length ∧
    ∀ j, j ≠ i → (treeStep t (.set i s)).1[j]? = t[j]? := by
  have e : treeStep t (.set i s) = (t.set i (applySetting t[i] s), some i) := by
    simp only [treeStep, List.getElem?_eq_getElem hi]
  rw [e]
  exact ⟨rfl, List.length_set, fun j hj => List.getElem?_set_ne (Ne.symm hj)⟩

/-- (2) New(name) returns the existing direct child of that name and changes nothing — options
    included. -/
theorem new_returns_existing (t : Tree) (p c : Nat) (key name : Bytes) (opts : List Setting) (pn : Node)
    (hp : t[p]? = some pn) (hc : pn.children.lookup key = some c) :
    treeStep t (.newChild p key name opts) = (t, some c) := by
  simp only [treeStep, hp, hc]

/-- (3) Otherwise it creates a child whose parent is the receiver and which starts with the
    receiver's level and format (then the given options are applied to the child only); the receiver
    is untouched apart from its name index, every other logger is untouched altogether. -/
theorem new_creates_child (t : Tree) (p : Nat) (key name : Bytes) (opts : List Setting) (pn : Node)
    (hp : t[p]? = some pn) (hc : pn.children.lookup key = none) :
    let r := treeStep t (.newChild p key name opts)
    r.2 = some t.length ∧ r.1.length = t.length + 1 ∧
    r.1[t.length]? = some (opts.foldl applySetting (freshChild pn p name)) ∧
    (freshChild pn p name).parent = some p ∧ (freshChild pn p name).level = pn.level ∧
    (freshChild pn p name).bits = pn.bits ∧
    r.1[p]? = some { pn with children := pn.children ++ [(key, t.length)] } ∧
    ∀ j, j ≠ p → j < t.length → r.1[j]? = t[j]? := by
  intro r
  have hr : r = treeStep t (.newChild p key name opts) := rfl
  simp only [treeStep, hp, hc] at hr
  have look := fun j => (congrArg (·.1[j]?) hr).trans (getElem?_set_snoc hp _ _ j)
  have hpl : p ≠ t.length := Nat.ne_of_lt (List.getElem?_eq_some_iff.1 hp).1
  refine ⟨by rw [hr], by rw [hr, List.length_append, List.length_set]; rfl, by rw [look, if_pos rfl], rfl, rfl, rfl,
    by rw [look, if_neg hpl, if_pos rfl], fun j hj hjl => by rw [look, if_neg (Nat.ne_of_lt hjl), if_neg (Ne.symm hj)]⟩

/-- (4) New is idempotent: asking again for the same name gives the same logger and changes nothing. -/
theorem new_idempotent (t : Tree) (p : Nat) (key name name' : Bytes) (opts opts' : List Setting) (pn : Node)
    (hp : t[p]? = some pn) (hc : pn.children.lookup key = none) :
    let t1 := (treeStep t (.newChild p key name opts)).1
    treeStep t1 (.newChild p key name' opts') = (t1, some t.length) := by
  obtain ⟨_, _, _, _, _, _, hpn, _⟩ := new_creates_child t p key name opts pn hp hc
  exact new_returns_existing _ p t.length key name' opts' _ hpn (by simp [List.lookup_append, hc, List.lookup])

/-- (5) WithSkip(n) keeps one child per n: the second call with the same n returns the same logger. -/
theorem withSkip_one_child_per_n (t : Tree) (p c : Nat) (key : Bytes) (n : Int) (pn : Node)
    (hp : t[p]? = some pn) (hc : pn.children.lookup key = some c) :
    (treeStep t (.withSkip p key n)).2 = some c ∧ (treeStep t (.withSkip p key n)).1.length = t.length := by
  simp only [treeStep, hp, hc]
  cases t[c]? <;> simp

/-- (6) A logger created with the package-level New has no parent and starts in colored format at
    the package's current default level; nothing else changes. -/
theorem detached_defaults (t : Tree) (name : Bytes) (lvl : Int) :
    let r := treeStep t (.newRoot name lvl [])
    r.1[t.length]? = some (freshRoot name lvl) ∧ (freshRoot name lvl).parent = none ∧
    fmtOf (freshRoot name lvl).bits = .color ∧ (freshRoot name lvl).level = lvl ∧
    ∀ j, j < t.length → r.1[j]? = t[j]? := by
  have look := getElem?_snoc t (freshRoot name lvl)
  exact ⟨(look _).trans (if_pos rfl), rfl, rfl, rfl, fun j hj => (look j).trans (if_neg (Nat.ne_of_lt hj))⟩

/-- Parent links point to earlier loggers. -/
def ParentsEarlier (t : Tree) : Prop := ∀ (i : Nat) (n : Node), t[i]? = some n → ∀ p, n.parent = some p → p < i

theorem parentsEarlier_of_wf {t : Tree} (h : WF (linkTab t)) : ParentsEarlier t :=
  fun i n hn p hp => h.earlier i p _ (by rw [linkTab_get hn, linksOf, hp])

/-- (7) After any history the parent links form a forest (they point to strictly earlier loggers). -/
theorem parentsEarlier_after_history (ops : List TreeOp) : ParentsEarlier (treeRun [] ops) :=
  parentsEarlier_of_wf (wf_run ops [] wf_nil)

/-- `Root()` is an ancestor of its receiver, and a parentless one: some number of parent links lead from `i` to it. -/
theorem rootOf_ancestor (t : Tree) (h : ParentsEarlier t) (fuel i : Nat) (hf : i ≤ fuel) (hi : i < t.length) :
    ∃ k n, climb (linkTab t) k i = some (rootOf t fuel i) ∧ t[rootOf t fuel i]? = some n ∧ n.parent = none := by
  have hn : t[i]? = some t[i] := List.getElem?_eq_getElem hi
  -- fuel ≥ i suffices: a parent link goes to a smaller index, so the bound holds again for the parent, and at
  -- fuel 0 the logger has index 0 and cannot have a parent
  induction fuel generalizing i with
  | zero =>
    refine ⟨0, t[i], rfl, hn, ?_⟩
    cases hp : t[i].parent with
    | none => rfl
    | some p => exact absurd (Nat.lt_of_lt_of_le (h i _ hn p hp) hf) (Nat.not_lt_zero _)
  | succ fuel ih =>
    simp only [rootOf, hn]
    cases hp : t[i].parent with
    | none => exact ⟨0, t[i], rfl, hn, hp⟩
    | some p =>
      have hlt := h i _ hn p hp
      have hpl := Nat.lt_trans hlt hi
      obtain ⟨k, n, hc, hr⟩ := ih p (Nat.le_of_lt_succ (Nat.lt_of_lt_of_le hlt hf)) hpl (List.getElem?_eq_getElem hpl)
      exact ⟨k + 1, n, by rw [climb_succ, parentL_linkTab hn, hp]; exact hc, hr⟩

/-- (8) Hence Root() reaches a parentless logger: following parent links from any logger ends, within
    as many steps as there are loggers, at one that has no parent. -/
theorem root_is_parentless (t : Tree) (h : ParentsEarlier t) (fuel i : Nat) (hf : i ≤ fuel) (hi : i < t.length) :
    ∃ n, t[rootOf t fuel i]? = some n ∧ n.parent = none :=
  let ⟨_, n, _, hr⟩ := rootOf_ancestor t h fuel i hf hi
  ⟨n, hr⟩

/-- (9) After any history the link structure is well formed: parents are earlier, a child listed under a
    logger has that logger as its parent, a logger with a parent is listed there, and exactly once. -/
theorem links_wellformed_after_history (ops : List TreeOp) : WF (linkTab (treeRun [] ops)) :=
  wf_run ops [] wf_nil

/-- What `climb` in (10) and (11) means in terms of the model: one climbing step is one parent link. -/
theorem climb_one_is_parent (t : Tree) (j : Nat) (n : Node) (h : t[j]? = some n) : climb (linkTab t) 1 j = n.parent := by
  rw [climb_one, parentL_linkTab h]

/-- (10) **`Each` agrees with the creation history.** After any history, `Each` on logger i (with as much
    fuel as there are loggers) reports a logger j at depth d if and only if following j's parent link d
    times leads to i — the receiver itself at depth 0, its children at depth 1, … — and reports no
    logger twice. -/
theorem each_agrees_with_history (ops : List TreeOp) (i : Nat) :
    let t := treeRun [] ops
    (∀ j d, (j, d) ∈ eachOf t t.length i 0 ↔ climb (linkTab t) d j = some i) ∧
      ((eachOf t t.length i 0).map (·.1)).Nodup :=
  eachOf_spec (links_wellformed_after_history ops) i

/-- (11) **`Sublogger(name)` agrees with the creation history.** After any history, what it returns
    carries that name and is the receiver or a logger below it; and if it returns nothing, no logger
    that `Each` reports below the receiver carries the name. -/
theorem sublogger_agrees_with_history (ops : List TreeOp) (i : Nat) (nm : Bytes) :
    let t := treeRun [] ops
    (∀ j, subloggerOf t t.length i nm = some j → hasName t j nm ∧ ∃ k, climb (linkTab t) k j = some i) ∧
    (subloggerOf t t.length i nm = none → ∀ j d, (j, d) ∈ eachOf t t.length i 0 → ¬ hasName t j nm) :=
  ⟨fun j hs => sublogger_sound _ (links_wellformed_after_history ops) nm _ i j hs, fun hs => sublogger_none 0 hs⟩

-- non-vacuity: Each on a root with a child and a grandchild
example :
    let t := treeRun [] [.newRoot [114] 3 [], .newChild 0 [97] [97] [], .newChild 1 [98] [98] [], .newChild 0 [99] [99] []]
    eachOf t t.length 0 0 = [(0, 0), (1, 1), (2, 2), (3, 1)] ∧ climb (linkTab t) 2 2 = some 0 := by decide

-- non-vacuity: a root, a named child (created once, found the second time), a With-child
example :
    let t := treeRun [] [.newRoot [114] 3 [], .newChild 0 [97] [97] [], .newChild 0 [97] [97] [.level 0],
                         .newChild 0 [35, 49] [120] [.json [true]], .set 1 (.level 5)]
    t.length = 3 ∧ (t[1]?.map (·.level)) = some 5 ∧ (t[0]?.map (·.level)) = some 3 ∧
    (t[2]?.map (fun n => fmtOf n.bits)) = some .json ∧ (t[0]?.map (fun n => fmtOf n.bits)) = some .color ∧
    rootOf t 3 2 = 0 := by decide

/-- The model changes one node per Set… operation and none per With… operation; that this is how the code
    works rests on a fact regenerated from the source: every assignment to a per-logger setting (level,
    format bits, attributes, skip count, writers, time layout and zone mode, context keys, value stringer,
    owner) goes through the receiver `s` of the method or option it stands in - no statement of the
    package writes a setting of a logger it merely looked up, created earlier or was handed. -/
theorem settings_written_through_the_receiver_only : Gen.foreignSettingWrites = [] := by decide

end Logg.Props.C10
