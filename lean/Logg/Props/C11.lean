/-
  C11 — Output format is a per-logger three-state machine; getters and bytes agree.
  `Gen.setJSONMode`, `Gen.setColorMode`, `Gen.setentryMode` are regenerated from
  Entry.SetJSONMode / Entry.SetColorMode / PrintCtx.setentry on every run.
-/
import Logg.Model.Format
import Logg.Gen.Decisions
import Logg.Gen.Facts

namespace Logg.Props.C11
open Logg

/-- One mode call on the two mode bits, as the code performs it. -/
def implCall (s : ModeBits) : ModeCall → ModeBits
  | .setJSON bs => Gen.setJSONMode s.1 s.2 bs
  | .setColor bs => Gen.setColorMode s.1 s.2 bs

/-- The invariant: the two bits are never both set. -/
def WellFormed (s : ModeBits) : Prop := ¬ (s.1 = true ∧ s.2 = true)

theorem foldl_last (bs : List Bool) (m : Bool) :
    List.foldl (fun _ bb => bb) m bs = bs.foldl (fun _ b => b) m := rfl

theorem setJSON_eq (j c : Bool) (bs : List Bool) :
    Gen.setJSONMode j c bs = (lastArg bs, if lastArg bs then false else c) := by
  unfold Gen.setJSONMode lastArg
  cases h : List.foldl (fun mode bb => bb) true bs <;> simp [h]

theorem setColor_eq (j c : Bool) (bs : List Bool) :
    Gen.setColorMode j c bs = (false, lastArg bs) := by
  simp [Gen.setColorMode, lastArg]

/-- A freshly created detached logger is colored; every mode call preserves well-formedness,
    so (JSON ∧ colour) is unreachable — the logger is always in exactly one of three formats. -/
theorem initial_wellFormed : WellFormed (false, true) := by simp [WellFormed]

theorem call_preserves_wellFormed (s : ModeBits) (c : ModeCall) : WellFormed (implCall s c) := by
  cases c with
  | setJSON bs => simp only [implCall, setJSON_eq, WellFormed]; cases lastArg bs <;> simp
  | setColor bs => simp [implCall, setColor_eq, WellFormed]

theorem format_total (s : ModeBits) (calls : List ModeCall) (h : WellFormed s) :
    WellFormed (calls.foldl implCall s) :=
  List.foldlRecOn calls implCall (motive := WellFormed) h fun s _ c _ => call_preserves_wellFormed s c

/-- One call moves the format exactly as the statement says: SetJSONMode(true) → JSON,
    SetColorMode(true) → colored, SetColorMode(false) → logfmt, SetJSONMode(false) turns JSON
    into logfmt and leaves a text format as it is. Variadic: last argument wins, none = true. -/
theorem call_refines_spec (s : ModeBits) (c : ModeCall) (h : WellFormed s) :
    fmtOf (implCall s c) = specCall (fmtOf s) c := by
  obtain ⟨j, cl⟩ := s
  cases c with
  | setJSON bs =>
    simp only [implCall, setJSON_eq, specCall, fmtOf]
    cases lastArg bs <;> cases j <;> cases cl <;> simp_all [WellFormed]
  | setColor bs =>
    simp only [implCall, setColor_eq, specCall, fmtOf]
    cases lastArg bs <;> simp

/-- Any sequence of mode calls: the format is what the sequence denotes. -/
theorem calls_refine_spec (s : ModeBits) (calls : List ModeCall) (h : WellFormed s) :
    fmtOf (calls.foldl implCall s) = calls.foldl specCall (fmtOf s) :=
  (List.foldl_rel (r := fun s f => WellFormed s ∧ fmtOf s = f) ⟨h, rfl⟩ fun c _ s _ ⟨hs, hf⟩ =>
    ⟨call_preserves_wellFormed s c, hf ▸ call_refines_spec s c hs⟩).2

/-- The most recent mode call decides (apart from SetJSONMode(false), which depends on the
    format before it — exactly as stated). -/
theorem last_mode_call_decides (s : ModeBits) (calls : List ModeCall) (c : ModeCall) (h : WellFormed s) :
    fmtOf ((calls ++ [c]).foldl implCall s) = specCall (fmtOf (calls.foldl implCall s)) c := by
  rw [List.foldl_append]
  exact call_refines_spec _ c (format_total s calls h)

/-- The getters (`JSONMode()` = first bit, `ColorMode()` = second bit) agree with the format. -/
theorem getters_agree (s : ModeBits) (h : WellFormed s) :
    (s.1 = true ↔ fmtOf s = .json) ∧ (s.2 = true ↔ fmtOf s = .color) := by
  obtain ⟨j, c⟩ := s
  cases j <;> cases c <;> simp_all [fmtOf, WellFormed]

/-- The per-record copy that drives the encoder (`jsonMode`, `noColor`) selects the encoder
    of the logger's format — even for the unreachable (true, true) pair. -/
theorem encoder_agrees (s : ModeBits) :
    (Gen.setentryMode s.1 s.2).1 = (fmtOf s == .json) ∧
    (Gen.setentryMode s.1 s.2).2 = (fmtOf s != .color) := by
  obtain ⟨j, c⟩ := s
  cases j <;> cases c <;> decide

/-- A child starts with its parent's bits (`newentry`), so it starts well-formed too; and a
    mode call on logger `i` of a tree leaves every other logger's bits alone. -/
theorem other_loggers_untouched (tree : List ModeBits) (i j : Nat) (c : ModeCall) (hij : j ≠ i) :
    (tree.set i (implCall (tree.getD i (false, true)) c))[j]? = tree[j]? := by
  simp [Ne.symm hij]

-- non-vacuity: JSON(false) on a JSON logger gives logfmt, on a colored logger stays colored
example : fmtOf (implCall (true, false) (.setJSON [false])) = .logfmt ∧
          fmtOf (implCall (false, true) (.setJSON [false])) = .color ∧
          fmtOf (implCall (false, true) (.setJSON [])) = .json ∧
          fmtOf (implCall (true, false) (.setColor [true, false])) = .logfmt := by decide

/-- `other_loggers_untouched` is about the model's list of loggers; for the code it rests on the regenerated
    fact that the format bits (like every per-logger setting) are only ever assigned through the receiver of
    the method or option the assignment stands in: no statement copies a format into another logger. -/
theorem format_written_through_the_receiver_only : Gen.foreignSettingWrites = [] := by decide

end Logg.Props.C11
