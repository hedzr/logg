/-
  C20 — Duration text helpers are total, invertible and agree with the standard parser.
  `Gen.durBufLen` (the fixed array of shortDur / shortDurFormat) and `Gen.unitMap` are
  regenerated from slog/internal/times/dur.go.

  Proved here: totality of the formatter for every int64 duration (exact bound on the text
  length, both styles), the shape of the sign handling, the unit table, the round trip
  parse ∘ format = id for every int64 duration in both styles (`round_trip`, with the float64
  product at its exact value — assumption A1, validated on every run), and the agreement with
  time.ParseDuration for every byte string and every behaviour of the float64 step
  (`agrees_with_std`).
-/
import Logg.Model.Duration
import Logg.Lemmas.Duration
import Logg.Gen.Tables

namespace Logg.Props.C20
open Logg

/-- every int64 duration -/
def isInt64 (d : Int) : Prop := -(2 ^ 63 : Int) ≤ d ∧ d < 2 ^ 63

theorem natAbs_le (d : Int) (h : isInt64 d) : d.natAbs ≤ 2 ^ 63 := by
  unfold isInt64 at h; omega

theorem compact_length (u : Nat) (hu : u ≤ 2 ^ 63) : (fmtCompact u).length ≤ 32 := by
  -- seven fields, digits + suffix: days < 10^6: 6 + 1; h, m, s < 100: 2 + 1 each; ms 3 + 2; µs 3 + 3; ns 3 + 2
  have l1 : (field (u / nsPerDay) [100]).length ≤ 7 :=
    field_length _ 5 _ (Nat.lt_of_le_of_lt (Nat.div_le_div_right hu) (by decide))
  have l2 : (field (u % nsPerDay / nsPerHour) [104]).length ≤ 3 :=
    field_length _ 1 _ (Nat.lt_trans (mod_div_lt u 24 nsPerHour (by decide)) (by decide))
  have l3 : (field (u % nsPerDay % nsPerHour / nsPerMin) [109]).length ≤ 3 :=
    field_length _ 1 _ (Nat.lt_trans (mod_div_lt _ 60 nsPerMin (by decide)) (by decide))
  have l4 : (field (u % nsPerDay % nsPerHour % nsPerMin / nsPerS) [115]).length ≤ 3 :=
    field_length _ 1 _ (Nat.lt_trans (mod_div_lt _ 60 nsPerS (by decide)) (by decide))
  have l5 : (field (u % nsPerDay % nsPerHour % nsPerMin % nsPerS / nsPerMs) [109, 115]).length ≤ 5 :=
    field_length _ 2 _ (mod_div_lt _ 1000 nsPerMs (by decide))
  have l6 : (field (u % nsPerDay % nsPerHour % nsPerMin % nsPerS % nsPerMs / nsPerUs) (microSign ++ [115])).length ≤ 6 :=
    field_length _ 2 _ (mod_div_lt _ 1000 nsPerUs (by decide))
  have l7 : (field (u % nsPerDay % nsPerHour % nsPerMin % nsPerS % nsPerMs % nsPerUs) [110, 115]).length ≤ 5 :=
    field_length _ 2 _ (Nat.mod_lt _ (by decide))
  simp only [fmtCompact, List.length_append]
  omega

theorem fractional_length (u : Nat) (hu : u ≤ 2 ^ 63) : (fmtFractional u).length ≤ 24 := by
  -- seconds: 2 digits, the point, 9 digits, 's' = 13; minutes 2 + 1; hours < 10^7: 7 + 1
  have ls : (fmtInt (u / nsPerS % 60) ++ ((fmtFrac u 9).1 ++ [115])).length ≤ 13 :=
    fracField_length _ u 9 1 [115] (Nat.lt_trans (Nat.mod_lt _ (by decide : 0 < 60)) (by decide))
  have lm : (if u / nsPerS / 60 > 0 then fmtInt (u / nsPerS / 60 % 60) ++ [109] else []).length ≤ 3 := by
    split
    · rw [List.length_append]; exact Nat.succ_le_succ (fmtInt_length 1 _ (Nat.lt_trans (Nat.mod_lt _ (by decide : 0 < 60)) (by decide)))
    · exact Nat.zero_le _
  have lh : (field (u / nsPerS / 60 / 60) [104]).length ≤ 8 :=
    field_length _ 6 _ (Nat.lt_of_le_of_lt (Nat.div_le_div_right (Nat.div_le_div_right (Nat.div_le_div_right hu))) (by decide))
  rw [fmtFractional_eq, List.length_append, List.length_append]
  omega

/-- The table gives the seven units the formatter writes their values: all that the round trip asks of it. -/
structure FormatterUnits (units : List (Bytes × Nat)) : Prop where
  d : GoodUnit units [100] nsPerDay
  h : GoodUnit units [104] nsPerHour
  m : GoodUnit units [109] nsPerMin
  s : GoodUnit units [115] nsPerS
  ms : GoodUnit units [109, 115] nsPerMs
  us : GoodUnit units (microSign ++ [115]) nsPerUs
  ns : GoodUnit units [110, 115] 1

theorem unitMap_formatterUnits : FormatterUnits Gen.unitMap :=
  ⟨by decide, by decide, by decide, by decide, by decide, by decide, by decide⟩

/-- Below one second (and above zero) the text is one field: ns, µs or ms with 0, 3 or 6 digits after the point. -/
theorem fmtSubSecond_eq (u : Nat) (h0 : u ≠ 0) (hu : u < nsPerS) :
    ∃ p t, fmtSubSecond u = fmtInt (u / 10 ^ p) ++ ((fmtFrac u p).1 ++ t) ∧
      (∀ {units}, FormatterUnits units → GoodUnit units t (10 ^ p)) ∧ u / 10 ^ p < 10 ^ 3 ∧ p + t.length ≤ 8 := by
  by_cases h1 : u < nsPerUs
  · exact ⟨0, [110, 115], by simp only [fmtSubSecond, h0, h1, ↓reduceIte, Nat.pow_zero, Nat.div_one]; rfl, (·.ns),
      by rw [Nat.pow_zero, Nat.div_one]; exact h1, by decide⟩
  · by_cases h2 : u < nsPerMs
    · exact ⟨3, microSign ++ [115], by simp only [fmtSubSecond, h0, h1, h2, ↓reduceIte, fmtFrac_snd, List.append_assoc], (·.us),
        (Nat.div_lt_iff_lt_mul (by decide)).mpr h2, by decide⟩
    · exact ⟨6, [109, 115], by simp only [fmtSubSecond, h0, h1, h2, ↓reduceIte, fmtFrac_snd, List.append_assoc], (·.ms),
        (Nat.div_lt_iff_lt_mul (by decide)).mpr hu, by decide⟩

theorem subSecond_length (u : Nat) (hu : u < nsPerS) : (fmtSubSecond u).length ≤ 13 := by
  by_cases h0 : u = 0
  · subst h0; decide
  · obtain ⟨p, t, he, _, hi, hp⟩ := fmtSubSecond_eq u h0 hu
    rw [he]
    exact Nat.le_trans (fracField_length _ u p 2 t hi) (by omega)

theorem mag_length (u : Nat) (frac : Bool) (hu : u ≤ 2 ^ 63) : (durText u frac).length ≤ if frac then 24 else 32 := by
  rw [durText_natCast]
  split
  · next hs => exact Nat.le_trans (subSecond_length _ hs) (by split <;> decide)
  · split
    · exact fractional_length _ hu
    · exact compact_length _ hu

/-- the bound of (1) style by style, sign included -/
theorem durText_length_by_style (d : Int) (frac : Bool) (h : isInt64 d) :
    (durText d frac).length ≤ if frac then 25 else 33 := by
  have hu := mag_length d.natAbs frac (natAbs_le d h)
  have e : (if frac then 25 else 33) = (if frac then 24 else 32) + 1 := by cases frac <;> rfl
  rw [durText_sign, e]
  split
  · exact Nat.succ_le_succ hu
  · exact Nat.le_succ_of_le hu

/-- (1) The exact room the formatter needs: at most 33 bytes in the compact style (32 + sign), at
    most 25 in the fractional style — for every int64 duration including math.MinInt64. -/
theorem durText_length (d : Int) (frac : Bool) (h : isInt64 d) : (durText d frac).length ≤ 33 :=
  Nat.le_trans (durText_length_by_style d frac h) (by split <;> decide)

/-- (2) Totality: with the array the code declares now, the formatter never runs out of room —
    it returns a text for every duration value, in both styles. -/
theorem format_total (d : Int) (frac : Bool) (h : isInt64 d) : (shortDur Gen.durBufLen d frac).isSome = true := by
  have hl : (durText d frac).length ≤ Gen.durBufLen := Nat.le_trans (durText_length d frac h) (by decide)
  simp only [shortDur, hl, ↓reduceIte, Option.isSome_some]

/-- The bound is tight: 32 bytes do not suffice (the defect that was repaired), 33 do. -/
theorem needs_33_bytes : shortDur 32 (-(2 ^ 63)) false = none ∧ (shortDur 33 (-(2 ^ 63)) false).isSome = true := by
  decide

/-- (3) A negative duration is the text of its magnitude preceded by '-'. -/
theorem sign_prefix (d : Int) (frac : Bool) (h : 0 < d) : durText (-d) frac = 45 :: durText d frac := by
  rw [durText_sign, if_pos (Int.neg_neg_of_pos h), Int.natAbs_neg, durText_sign d, if_neg (Int.not_lt.2 (Int.le_of_lt h))]

/-- (4) The unit table: the standard units and, additionally, the day. -/
theorem unit_table :
    Gen.unitMap = [(([110, 115] : Bytes), 1), (([117, 115] : Bytes), nsPerUs), (microSign ++ ([115] : Bytes), nsPerUs), ([0xCE, 0xBC, 115], nsPerUs),
                   (([109, 115] : Bytes), nsPerMs), (([115] : Bytes), nsPerS), (([109] : Bytes), nsPerMin), (([104] : Bytes), nsPerHour), (([100] : Bytes), nsPerDay)] := by
  decide

/-! ### the round trip: the parser turns the formatter's text back into the duration

  The parser's one float64 expression is the parameter `fmul`; here it is `fmulExact f unit k =
  f * (unit / 10^k)`, its exact value. On the texts the formatter writes, 10^k divides the unit and
  f < 10^k, so the float64 evaluation is exact (every operand and result is an integer below 2^53);
  that the implementation's float64 arithmetic agrees with `fmulExact` there is assumption A1 of
  DESIGN.md, validated on every run by the correspondence (`fm` lines). -/

theorem row_field {units : List (Bytes × Nat)} (v : Nat) {t : Bytes} {U : Nat} (hg : GoodUnit units t U) :
    Row units (field v t) (v * U) := by
  unfold field
  split
  · exact Row.plain v hg
  · next h => rw [Nat.eq_zero_of_not_pos h, Nat.zero_mul]; exact Row.nil units

/-- the model's seven optional fields, one after the other; what they add is `u` written in the mixed radix of the units -/
theorem compact_row {units : List (Bytes × Nat)} (hg : FormatterUnits units) (u : Nat) : Row units (fmtCompact u) u := by
  exact (((((((row_field (u / nsPerDay) hg.d).append
    (row_field (u % nsPerDay / nsPerHour) hg.h)).append
    (row_field (u % nsPerDay % nsPerHour / nsPerMin) hg.m)).append
    (row_field (u % nsPerDay % nsPerHour % nsPerMin / nsPerS) hg.s)).append
    (row_field (u % nsPerDay % nsPerHour % nsPerMin % nsPerS / nsPerMs) hg.ms)).append
    (row_field (u % nsPerDay % nsPerHour % nsPerMin % nsPerS % nsPerMs / nsPerUs) hg.us)).append
    (row_field (u % nsPerDay % nsPerHour % nsPerMin % nsPerS % nsPerMs % nsPerUs) hg.ns)).cast
    (by simp only [Nat.add_assoc, Nat.mul_one, Nat.div_add_mod'])

theorem subSecond_row {units : List (Bytes × Nat)} (hg : FormatterUnits units) (u : Nat) (hu : u < nsPerS) : Row units (fmtSubSecond u) u := by
  by_cases h0 : u = 0
  · subst h0; exact Row.plain 0 hg.s
  · obtain ⟨p, t, he, ht, _, hp⟩ := fmtSubSecond_eq u h0 hu
    exact he ▸ (Row.frac (u / 10 ^ p) u (ht hg) rfl (by omega)).cast (Nat.div_add_mod' ..)

/-- hours, minutes, seconds and the rest add up (`S` the second, in the unit of `u`) -/
theorem hms_sum (u S : Nat) :
    u / S / 60 / 60 * (60 * (60 * S)) + (u / S / 60 % 60 * (60 * S) + (u / S % 60 * S + u % S)) = u := by
  rw [← Nat.mul_assoc, ← Nat.add_assoc, ← Nat.add_mul, Nat.div_add_mod', ← Nat.add_assoc, ← Nat.mul_assoc, ← Nat.add_mul,
    Nat.div_add_mod', Nat.div_add_mod']

theorem fractional_row {units : List (Bytes × Nat)} (hg : FormatterUnits units) (u : Nat) : Row units (fmtFractional u) u := by
  have hs := Row.frac (p := 9) (u / nsPerS % 60) u hg.s rfl (by decide)
  have hm : Row units (if u / nsPerS / 60 > 0 then fmtInt (u / nsPerS / 60 % 60) ++ [109] else [])
      (u / nsPerS / 60 % 60 * nsPerMin) := by
    split
    · exact Row.plain _ hg.m
    · next h => rw [Nat.eq_zero_of_not_pos h, Nat.zero_mod, Nat.zero_mul]; exact Row.nil _
  rw [fmtFractional_eq]
  exact ((row_field _ hg.h).append (hm.append hs)).cast (hms_sum u nsPerS)

/-- the whole-number fields of the fractional style -/
def fracFields (u : Nat) : List Fld :=
  let secs := u / 10 ^ 9
  let mins := secs / 60
  let hours := mins / 60
  if mins > 0 then
    if hours > 0 then [(hours, ([104] : Bytes), nsPerHour), (mins % 60, ([109] : Bytes), nsPerMin)]
    else [(mins % 60, ([109] : Bytes), nsPerMin)]
  else []

theorem fracFields_length (u : Nat) : (fracFields u).length ≤ 2 := by
  unfold fracFields; simp only; split
  · split <;> simp
  · simp

theorem mag_row {units : List (Bytes × Nat)} (hg : FormatterUnits units) (u : Nat) (frac : Bool) : Row units (durText u frac) u := by
  rw [durText_natCast]
  split
  · next h => exact subSecond_row hg u h
  · split
    · exact fractional_row hg u
    · exact compact_row hg u

/-- The parser turns the formatter's text back into the duration over any table that gives the formatter's seven units
    their values (the standard table has no day, so compact texts from one day on are not read back by it). -/
theorem round_trip_over {units : List (Bytes × Nat)} (hg : FormatterUnits units) (d : Int) (frac : Bool) (h : isInt64 d) :
    parseDuration units fmulExact (durText d frac) = .ok d := by
  have hu : d.natAbs ≤ two63 := natAbs_le d h
  have hrow := mag_row hg d.natAbs frac
  have hne : durText d.natAbs frac ≠ [] := fun e => by
    -- an empty text would be a row worth 0, and 0 is written "0s"
    rw [e] at hrow
    rw [hrow.nil_val hu] at e
    exact nomatch e
  rw [durText_sign]
  by_cases hd : d < 0
  · rw [if_pos hd, parseDuration_neg_row hrow hne hu, Int.ofNat_natAbs_of_nonpos (Int.le_of_lt hd), Int.neg_neg]
  · have hlt : d.natAbs < two63 := by unfold isInt64 at h; rw [two63_val]; omega
    rw [if_neg hd, parseDuration_row hrow hne hlt, Int.natAbs_of_nonneg (Int.not_lt.1 hd)]

/-- (5) **Invertible.** For every int64 duration, in the compact and in the fractional style, the
    package's parser turns the formatter's text back into exactly that duration. -/
theorem round_trip (d : Int) (frac : Bool) (h : isInt64 d) :
    parseDuration Gen.unitMap fmulExact (durText d frac) = .ok d :=
  round_trip_over unitMap_formatterUnits d frac h

/-! ### agreement with time.ParseDuration

  `stdUnitsOf Gen.unitMap` is the table of the standard library (the correspondence runs the model
  over it against `time.ParseDuration` itself); the parser code is the same. `fmul` is arbitrary here:
  no assumption on the float64 step is needed. -/

/-- (6) For every byte string the package's parser returns what the standard parser returns, or the
    standard parser stopped at a day unit. -/
theorem agrees_with_std (fmul : Nat → Nat → Nat → Nat) (s : Bytes) :
    parseDuration (stdUnitsOf Gen.unitMap) fmul s = parseDuration Gen.unitMap fmul s ∨
      parseDuration (stdUnitsOf Gen.unitMap) fmul s = .error (.unknownUnit ([100] : Bytes)) :=
  parseDuration_without (lookup_stdUnitsOf Gen.unitMap) fmul s

/-- everything the standard parser accepts is accepted with the same result -/
theorem std_accepted_same (fmul : Nat → Nat → Nat → Nat) (s : Bytes) (d : Int)
    (h : parseDuration (stdUnitsOf Gen.unitMap) fmul s = .ok d) : parseDuration Gen.unitMap fmul s = .ok d := by
  rcases agrees_with_std fmul s with e | e
  · rw [← e]; exact h
  · rw [h] at e; cases e

/-- whatever the standard parser rejects is rejected for the same reason, unless the reason is the day unit -/
theorem std_rejected_same_or_day (fmul : Nat → Nat → Nat → Nat) (s : Bytes) (e : DurErr)
    (h : parseDuration (stdUnitsOf Gen.unitMap) fmul s = .error e) :
    parseDuration Gen.unitMap fmul s = .error e ∨ e = .unknownUnit ([100] : Bytes) := by
  rcases agrees_with_std fmul s with e' | e'
  · left; rw [← e']; exact h
  · right; rw [h] at e'; injection e'

/-- the standard table is the package's table without the day -/
theorem std_table :
    stdUnitsOf Gen.unitMap = [(([110, 115] : Bytes), 1), (([117, 115] : Bytes), nsPerUs), (microSign ++ ([115] : Bytes), nsPerUs), ([0xCE, 0xBC, 115], nsPerUs),
                   (([109, 115] : Bytes), nsPerMs), (([115] : Bytes), nsPerS), (([109] : Bytes), nsPerMin), (([104] : Bytes), nsPerHour)] := by
  decide

-- for the `decide` of the example below
deriving instance DecidableEq for Except

/-- the one difference is real: "1d" -/
example : parseDuration Gen.unitMap fmulExact ([49, 100] : Bytes) = .ok (nsPerDay : Int) ∧
    parseDuration (stdUnitsOf Gen.unitMap) fmulExact ([49, 100] : Bytes) = .error (.unknownUnit ([100] : Bytes)) := by
  constructor <;> decide +kernel

-- non-vacuity
example : parseDuration Gen.unitMap fmulExact (durText (-(2 ^ 63)) false) = .ok (-(2 ^ 63)) := round_trip _ _ (by unfold isInt64; omega)
example : durText 1500 true = [49, 46, 53, 0xC2, 0xB5, 115] := by decide
example : shortDur Gen.durBufLen (3 * 86400000000000 + 3600000000000) false = some [51, 100, 49, 104] := by decide
example : shortDur Gen.durBufLen 11000013000 true = some [49, 49, 46, 48, 48, 48, 48, 49, 51, 115] := by decide

end Logg.Props.C20
