/-
  C01 — Level gating: one admission rule, identical at every entry point.

  Property theorems only. `Gen.*` is regenerated from /repo on every run, so each theorem is
  re-checked against what the code says now.
-/
import Logg.Bridge.Level
import Logg.Gen.EntryPoints
import Logg.Gen.Facts
import Logg.Lemmas.Assoc

namespace Logg.Props.C01
open Logg

/-- Does a call through one `logContext` site of an entry point emit a record?
    `arg` is the caller-supplied level argument (ignored by fixed-severity verbs). -/
def siteEmits (g : Globals) (L arg : Int) (s : EmitSite) : Bool :=
  if s.gated then Gen.enabled g L (sevValue Gen.logsloglevel2Level arg s.gateSev) else true

/-- The severity of the record a site emits. -/
def siteSeverity (arg : Int) (s : EmitSite) : Int := sevValue Gen.logsloglevel2Level arg s.emitSev

/-- (1) The gate of the code is the admission rule of the statement: Off beats everything,
    then Always, then debug mode for Debug, then the treated-as comparison. All integer
    levels, any registry, debug mode on and off. -/
theorem gate_is_admission_rule (g : Globals) (L r : Int) : Gen.enabled g L r = admits g L r :=
  Bridge.enabled_eq_admits g L r

/-- All that C01 asks of a row of the regenerated table, decided in one pass over it. -/
theorem table_ok : ∀ ep ∈ Gen.entryPoints,
    (∀ s ∈ ep.sites, s.gated = true ∧ s.sameLogger = true ∧ s.gateSev = s.emitSev ∧ s.emitSev ≠ Sev.unknown) ∧
    (ep.sites = [] ↔ ep.name = "Verbose" ∨ ep.name = "VerboseContext") := by
  decide

/-- (2) Every `logContext` call reachable from a public entry point sits behind a gate, the
    gate is asked of the logger that emits, and it is asked about the severity that is emitted. -/
theorem entry_points_uniform :
    ∀ ep ∈ Gen.entryPoints, ∀ s ∈ ep.sites,
      s.gated = true ∧ s.sameLogger = true ∧ s.gateSev = s.emitSev ∧ s.emitSev ≠ Sev.unknown :=
  fun ep hep => (table_ok ep hep).1

/-- (3) Hence: for every public entry point, every logger level, every severity argument and
    every registry / debug-mode state, a record is emitted iff its severity is admitted. -/
theorem emits_iff_admitted (g : Globals) (L arg : Int) :
    ∀ ep ∈ Gen.entryPoints, ∀ s ∈ ep.sites, siteEmits g L arg s = admits g L (siteSeverity arg s) := by
  intro ep hep s hs
  obtain ⟨hg, _, hsev, _⟩ := entry_points_uniform ep hep s hs
  simp [siteEmits, siteSeverity, hg, hsev, gate_is_admission_rule]

/-- The public ways of issuing a severity that the statement lists are all in the table
    (so (2)/(3) are not vacuous): 13 verbs and their Context variants, LogAttrs/Logit/Log and
    the printf verbs on a logger; the 13 verbs and Context variants at package level. -/
def expectedLoggerEntryPoints : List String :=
  ["Panic", "Fatal", "Error", "Warn", "Info", "Debug", "Trace", "Print", "Println", "OK", "Success", "Fail", "Verbose",
   "PanicContext", "FatalContext", "ErrorContext", "WarnContext", "InfoContext", "DebugContext", "TraceContext",
   "PrintContext", "PrintlnContext", "OKContext", "SuccessContext", "FailContext", "VerboseContext",
   "LogAttrs", "Logit", "Log", "Infof", "Warnf", "Errorf"]

def expectedPackageEntryPoints : List String :=
  ["Panic", "Fatal", "Error", "Warn", "Info", "Debug", "Trace", "Print", "Println", "OK", "Success", "Fail", "Verbose",
   "PanicContext", "FatalContext", "ErrorContext", "WarnContext", "InfoContext", "DebugContext", "TraceContext",
   "PrintContext", "PrintlnContext", "OKContext", "SuccessContext", "FailContext", "VerboseContext"]

theorem entry_points_complete :
    (∀ n ∈ expectedLoggerEntryPoints, ∃ ep ∈ Gen.entryPoints, ep.name = n ∧ ep.recv = EpRecv.logger) ∧
    (∀ n ∈ expectedPackageEntryPoints, ∃ ep ∈ Gen.entryPoints, ep.name = n ∧ ep.recv = EpRecv.pkg) := by
  -- a search in a finite table; the elaborator's own evaluation is skipped: comparing strings is slow there
  decide +kernel

/-- Every entry point other than Verbose really does reach an emitting site. -/
theorem non_verbose_entry_points_emit :
    ∀ ep ∈ Gen.entryPoints, ep.name ≠ "Verbose" → ep.name ≠ "VerboseContext" → ep.sites ≠ [] :=
  fun ep hep h1 h2 h => ((table_ok ep hep).2.mp h).elim h1 h2

/-- (4) Verbose emits nothing in a default build: no emitting site, empty bodies. -/
theorem verbose_silent :
    Gen.verboseBodiesEmpty = true ∧
    ∀ ep ∈ Gen.entryPoints, (ep.name = "Verbose" ∨ ep.name = "VerboseContext") → ep.sites = [] :=
  ⟨by decide, fun ep hep => (table_ok ep hep).2.mpr⟩

def isSetDebug : GateOp → Bool
  | .setDebug _ => true
  | _ => false

/-- (5) `SetLevel(Debug)` on any logger switches the process-wide debug mode on … -/
theorem setLevel_debug_switches_on (s : GateState) (k : Nat) :
    (gateStep s (.setLevel k Lv.debug)).g.debugMode = true := by
  simp [gateStep]

/-- … and no later logger or registry operation switches it off again (only an explicit
    call of the debug switch from outside the library can). -/
theorem debug_mode_sticky (s : GateState) (ops : List GateOp)
    (h : s.g.debugMode = true) (hops : ∀ op ∈ ops, isSetDebug op = false) :
    (gateRun s ops).g.debugMode = true := by
  refine List.foldlRecOn (motive := (·.g.debugMode = true)) ops gateStep h fun s hs op hop => ?_
  cases op with
  | setLevel k lvl => simp [gateStep, hs]
  | register v t => exact hs
  | setDebug on => exact absurd (hops _ hop) (by simp [isSetDebug])

/-- What a history does to the level of logger `k`, read off the history alone: each
    `SetLevel` on `k` replaces it, nothing else touches it (an `Option`: there may be no logger `k`, and
    `SetLevel` does not create one). -/
def levelTrack (k : Nat) (a : Option Int) : GateOp → Option Int
  | .setLevel j l => if j = k then a.map (fun _ => l) else a
  | _ => a

theorem step_level (s : GateState) (k : Nat) (op : GateOp) :
    (gateStep s op).levels[k]? = levelTrack k s.levels[k]? op := by
  cases op with
  | setLevel j l =>
    by_cases hjk : j = k
    · subst hjk; simp only [gateStep, levelTrack, if_true, List.getElem?_set_self']; rfl
    · simp [gateStep, levelTrack, hjk, List.getElem?_set_ne hjk]
  | register v t | setDebug on => rfl

/-- (5b) For every history: the level a logger gates with is the one given by the last
    `SetLevel` on that very logger (its initial level if there was none) — no `SetLevel` on
    another logger, no registration and no debug switch ever changes it. -/
theorem level_is_last_set (s : GateState) (k : Nat) (ops : List GateOp) :
    (gateRun s ops).levels[k]? = ops.foldl (levelTrack k) s.levels[k]? :=
  (List.foldl_hom (·.levels[k]?) fun s op => (step_level s k op).symm).symm

/-- Corollary: a history without a `SetLevel` on logger `k` leaves its level alone. -/
theorem level_untouched (s : GateState) (k : Nat) (ops : List GateOp)
    (h : ∀ j l, GateOp.setLevel j l ∈ ops → j ≠ k) :
    (gateRun s ops).levels[k]? = s.levels[k]? := by
  rw [level_is_last_set]
  refine List.foldlRecOn (motive := (· = s.levels[k]?)) ops _ rfl fun a ha op hop => ?_
  cases op with
  | setLevel j l => simp [levelTrack, h j l hop, ha]
  | register v t | setDebug on => exact ha

-- non-vacuity: three loggers, a history touching loggers 1 and 2; logger 1 ends at its last SetLevel
example : (gateRun { g := {}, levels := [4, 4, 4] }
    [.setLevel 1 2, .setLevel 2 7, .register 9 (some 3), .setLevel 1 6, .setDebug false]).levels = [4, 6, 7] := by decide

theorem admits_congr_non_debug (g g' : Globals) (L r : Int) (hr : r ≠ Lv.debug)
    (ht : g'.treatAs = g.treatAs) : admits g' L r = admits g L r := by
  unfold admits effective
  rw [ht]
  simp [hr]

/-- (6) Setting the level of one logger changes the gating of another logger at most for
    the Debug severity (through the debug switch), and never its level. -/
theorem setLevel_other_loggers (s : GateState) (k j : Nat) (lvl r : Int) (hjk : j ≠ k)
    (hr : r ≠ Lv.debug) :
    (gateStep s (.setLevel k lvl)).levels[j]? = s.levels[j]? ∧
    ∀ L, admits (gateStep s (.setLevel k lvl)).g L r = admits s.g L r := by
  constructor
  · simp [gateStep, Ne.symm hjk]
  · intro L
    exact admits_congr_non_debug _ _ L r hr rfl

/-- (7) A registered level is gated as the level it is treated as. -/
theorem registered_level_gated_as (g : Globals) (v t L : Int) (ht : t < Lv.max)
    (hv : v ≠ Lv.off) (hv' : v ≠ Lv.always) (hv'' : v ≠ Lv.debug)
    (hL : L ≠ Lv.off) (hL' : L ≠ Lv.always) :
    admits { g with treatAs := regTreat g.treatAs v (some t) } L v = decide (t ≤ L) := by
  simp [admits, effective, regTreat, ht, hv, hv', hv'', hL, hL', Lemmas.lookup_assocSet_self]

/-! ### the hypotheses are met by concrete states (non-vacuity) -/

-- a level 17 treated as Info: refused by a Warn logger, admitted by an Info logger
example : admits { treatAs := [(17, 4)] } Lv.warn 17 = false ∧ admits { treatAs := [(17, 4)] } Lv.info 17 = true := by decide
-- debug mode lets Debug through a Warn logger, and only Debug
example : admits { debugMode := true } Lv.warn Lv.debug = true ∧ admits { debugMode := true } Lv.warn Lv.trace = false ∧
    admits {} Lv.warn Lv.debug = false := by decide
-- Off beats Always on either side
example : admits {} Lv.off Lv.always = false ∧ admits {} Lv.always Lv.off = false ∧ admits {} Lv.always Lv.trace = true := by decide
-- a history after which the switch is on although every logger is back at Warn
example : (gateRun { g := {}, levels := [3, 3] } [.setLevel 1 Lv.debug, .setLevel 1 Lv.warn]).g.debugMode = true := by decide

end Logg.Props.C01
