/-
  C14 — Caller attribution points at the user's call site for every entry point.
  `Gen.entryPoints` (skip constant and length of the library call chain of every logContext site,
  by a symbolic walk of the source), `Gen.getpcPlus`, `Gen.handleCallersSkip` and
  `Gen.bridgeGetpcSkip` are regenerated from the source on every run.
-/
import Logg.Model.Caller

namespace Logg.Props.C14
open Logg

/-- Skipping exactly the frames `pre` that lie below the user's code, and `n` more, lands on the user's
    n-th frame. -/
theorem user_frame (pre : List Frame) (i n depth : Nat) (hi : i = pre.length + n) (h : n < depth) :
    (pre ++ userFrames depth)[i]? = some (Frame.user n) := by
  rw [hi, List.getElem?_append_right (Nat.le_add_right _ _), Nat.add_sub_cancel_left]
  simp [userFrames, h]

/-- (0) getpc adds exactly one frame of its own to the count it is given; the two adapters skip four. -/
theorem skip_constants : Gen.getpcPlus = 1 ∧ Gen.handleCallersSkip = 4 ∧ Gen.bridgeGetpcSkip = 4 := by decide

/-- (1) The indexing lemma: with `chain` library frames on the stack, a skip constant of
    `chain + 1` and `extra` extra frames select the user's frame number `extra` — for all chain
    lengths, skip counts and stack depths. -/
theorem getpc_selects_user (chain extra depth : Nat) (h : extra < depth) :
    getpcFrame (verbStack chain depth) (chain + 1) extra = some (Frame.user extra) :=
  user_frame _ _ extra depth (by simp [libFrames, skip_constants.1]; omega) h

/-- (2) Every logContext site of every public entry point — logger verbs, Context verbs,
    LogAttrs / Logit / Log, the printf-style verbs and the package-level functions — passes
    the skip constant that matches the length of its own call chain, and honours the logger's
    skip count. Decided over the regenerated table. -/
theorem every_site_consistent :
    ∀ ep ∈ Gen.entryPoints, ∀ s ∈ ep.sites, s.skip = s.chain + 1 ∧ s.usesExtra = true := by decide

/-- (3) Hence: for every entry point, every site, every skip count n given by WithSkip / SetSkip
    and every stack deep enough, the record is attributed to the n-th frame above the statement
    that issued it — n = 0: the statement's own function. -/
theorem attribution (ep : EntryPoint) (hep : ep ∈ Gen.entryPoints) (s : EmitSite) (hs : s ∈ ep.sites)
    (n depth : Nat) (h : n < depth) : siteFrame s n depth = some (Frame.user n) := by
  obtain ⟨h1, h2⟩ := every_site_consistent ep hep s hs
  rw [siteFrame, h1, h2]
  exact getpc_selects_user s.chain n depth h

/-- (4) The log/slog adapter: Handle's own runtime.Callers skips itself, Handle and the two
    log/slog frames, plus the logger's current skip count (read per record). -/
theorem handler_attribution (n depth : Nat) (h : n < depth) : handlerFrame n depth = some (Frame.user n) :=
  user_frame _ _ n depth (by simp [skip_constants.2.1]) h

/-- (5) The std log bridge: Write → getpc skips getpc, Write and the two frames of package log. -/
theorem bridge_attribution (n depth : Nat) (h : n < depth) : bridgeFrame n depth = some (Frame.user n) :=
  user_frame _ _ n depth (by simp [skip_constants]; omega) h

/-- (6) A skip count moves the attribution exactly n frames: attributions for n and n + 1 are
    adjacent frames of the user's stack. -/
theorem skip_moves_one_frame (ep : EntryPoint) (hep : ep ∈ Gen.entryPoints) (s : EmitSite) (hs : s ∈ ep.sites)
    (n depth : Nat) (h : n + 1 < depth) :
    siteFrame s n depth = some (Frame.user n) ∧ siteFrame s (n + 1) depth = some (Frame.user (n + 1)) :=
  ⟨attribution ep hep s hs n depth (by omega), attribution ep hep s hs (n + 1) depth h⟩

/-- the table is not empty: 58 entry points, of which the Verbose family has no site in this build -/
theorem table_size : Gen.entryPoints.length = 58 ∧ (Gen.entryPoints.filter fun ep => ep.sites.isEmpty).length = 4 := by decide

-- non-vacuity: `Info` of a logger (chain Info → log1), skip 2, stack of depth 5
example : siteFrame { gated := true, gateSev := .const 4, emitSev := .const 4, skip := 3, chain := 2, usesExtra := true, sameLogger := true } 2 5
    = some (Frame.user 2) := by decide

end Logg.Props.C14
