/-
  What the package takes from outside a call (regenerated). Every correspondence run and every oracle of the
  harness observes the code in the environments the harness creates: its own, and those of the environment
  probes (harness/envprobe.go: DEBUG, NO_COLOR, the locale, HOME, TZ, a replaced states holder, the order of
  the first calls). That those observations say something about other environments rests on the facts below:
  the only environment variable the package reads itself is DEBUG (once, in init.go); the only values captured
  once at start-up are the four process-kind flags (test binary, benchmark, debugger, debug build) and the unit
  table of the duration parser; the only once-only initialisers are the package init guard and the table of
  time formats. A new read of the environment, a new value computed at start-up or a new lazy initialiser makes
  this fail: behaviour may then depend on an environment or an order of first calls no check has looked at.
-/
import Logg.Gen.Facts

namespace Logg.Props.Env
open Logg

theorem outside_inputs :
    Gen.envReads = ["slog/init.go:os.Getenv(\"DEBUG\")"] ∧
    Gen.initCaptures = ["slog/entry.go:inBenching", "slog/entry.go:inTesting", "slog/entry.go:isDebug",
      "slog/entry.go:isDebugging", "slog/internal/times/dur.go:unitMap"] ∧
    Gen.onceSites = ["slog/cmn.go:onceInit", "slog/internal/times/time.go:onceFormats"] := ⟨rfl, rfl, rfl⟩

end Logg.Props.Env
