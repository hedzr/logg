/-
  C02 — Exactly-once delivery: each admitted call is one whole Write, for any arguments.
  The model of the call (Logg.Model.Args) composes the regenerated gate, the argument parser,
  the encoder and the regenerated routing.
-/
import Logg.Model.Args
import Logg.Lemmas.Encoder
import Logg.Props.C03
import Logg.Props.C12
import Logg.Props.C13
import Logg.Gen.Facts

namespace Logg.Props.C02
open Logg

theorem argsRun_append (st : ArgSt) (xs ys : List Arg) : argsRun st (xs ++ ys) = argsRun (argsRun st xs) ys :=
  List.foldl_append

theorem argStep_str_nokey (st : ArgSt) (k : Bytes) (h0 : st.key = []) : argStep st (.str k) = { st with key := k } := by
  simp [argStep, h0]

theorem argStep_val_nokey (st : ArgSt) (v : Val) (h0 : st.key = []) : argStep st (.val v) = st := by
  simp [argStep, h0]

/-- an argument that can stand in value position -/
inductive ValueArg where
  | str (s : Bytes)
  | val (v : Val)

def ValueArg.arg : ValueArg → Arg
  | .str s => .str s
  | .val v => .val v

def ValueArg.value : ValueArg → Val
  | .str s => .str s
  | .val v => v

theorem asValue_valueArg (v : ValueArg) : v.arg.asValue = some v.value := by cases v <;> rfl

/-- one key/value pair with a non-empty key adds exactly that attribute and leaves no pending key -/
theorem pair_step (st : ArgSt) (k : Bytes) (v : ValueArg) (hk : k ≠ []) (h0 : st.key = []) :
    argsRun st [.str k, v.arg] = { st with acc := st.acc ++ [some (k, false, v.value)], key := [] } := by
  simp [argsRun, argStep, h0, List.isEmpty_eq_false_iff.2 hk, asValue_valueArg]

/-- (1) Well-formed lists: `k1, v1, k2, v2, …` with non-empty keys and values of any kind (strings,
    nil, anything) become exactly those attributes, in order — none lost, none invented. -/
theorem pairs_kept (init : List Attr) (kvs : List (Bytes × ValueArg)) (hk : ∀ p ∈ kvs, p.1 ≠ []) :
    argsToAttrs init (kvs.flatMap fun p => [.str p.1, p.2.arg]) =
      some (init ++ kvs.map fun p => some (p.1, false, p.2.value)) := by
  have key : ∀ (st : ArgSt), st.key = [] →
      argsRun st (kvs.flatMap fun p => [.str p.1, p.2.arg]) =
        { st with acc := st.acc ++ kvs.map fun p => some (p.1, false, p.2.value), key := [] } := by
    induction kvs with
    | nil => intro st h0; cases st; simp_all [argsRun]
    | cons p ps ih =>
      intro st h0
      rw [List.flatMap_cons, argsRun_append, pair_step st p.1 p.2 (hk p List.mem_cons_self) h0,
        ih (fun q hq => hk q (List.mem_cons_of_mem _ hq)) _ rfl]
      simp
  simp [argsToAttrs, key { acc := init, key := [] } rfl]

/-- (2) Attribute arguments (`Attr`, `[]Attr`, `Attrs`) between pairs are appended whole, in place. -/
theorem attr_args_appended (st : ArgSt) (h0 : st.key = []) (a : Attr) (xs : List Attr) :
    argsRun st [.attr a] = { st with acc := st.acc ++ [a] } ∧
    argsRun st [.attrs xs] = { st with acc := st.acc ++ xs } := by
  simp [argsRun, argStep, h0]

/-- (3) A dangling key (a string with nothing after it) adds nothing. -/
theorem dangling_key_dropped (init : List Attr) (xs : List Arg) (k : Bytes)
    (h0 : (argsRun { acc := init, key := [] } xs).key = []) :
    argsToAttrs init (xs ++ [.str k]) = argsToAttrs init xs := by
  unfold argsToAttrs
  rw [argsRun_append, show ∀ st, argsRun st [.str k] = argStep st (.str k) from fun _ => rfl,
    argStep_str_nokey _ _ h0]

/-- An argument that leaves the loop state as it found it can be left out of the list. -/
theorem skipped (init : List Attr) (xs ys : List Arg) (a : Arg)
    (h : argStep (argsRun { acc := init, key := [] } xs) a = argsRun { acc := init, key := [] } xs) :
    argsToAttrs init (xs ++ [a] ++ ys) = argsToAttrs init (xs ++ ys) := by
  have e : argsRun (argsRun { acc := init, key := [] } xs) ([a] ++ ys) = argsRun (argsRun _ xs) ys :=
    congrArg (argsRun · ys) h
  unfold argsToAttrs
  rw [List.append_assoc, argsRun_append, argsRun_append _ xs ys, e]

/-- (4) A non-string value in key position is skipped and does not shift the pairing of what
    follows: the list behaves as if it were not there. -/
theorem bad_key_skipped (init : List Attr) (xs ys : List Arg) (v : Val)
    (h0 : (argsRun { acc := init, key := [] } xs).key = []) :
    argsToAttrs init (xs ++ [.val v] ++ ys) = argsToAttrs init (xs ++ ys) :=
  skipped init xs ys _ (argStep_val_nokey _ v h0)

/-- (5) An empty string in key position is not a key: the next argument is read as a key again. -/
theorem empty_key_skipped (init : List Attr) (xs ys : List Arg)
    (h0 : (argsRun { acc := init, key := [] } xs).key = []) :
    argsToAttrs init (xs ++ [.str []] ++ ys) = argsToAttrs init (xs ++ ys) :=
  skipped init xs ys _ <| by
    rw [argStep_str_nokey _ _ h0]
    generalize argsRun _ xs = st at h0
    cases st; cases h0; rfl

/-- (6) The parser is total on the modelled domain: lists without an attribute in value position
    always yield attributes (strings, nil, any value kind, dangling and malformed keys included). -/
theorem args_total (init : List Attr) (args : List Arg)
    (h : ∀ a ∈ args, (∃ s, a = .str s) ∨ (∃ v, a = .val v)) : (argsToAttrs init args).isSome = true := by
  have key : (argsRun { acc := init, key := [] } args).ok = true := by
    refine List.foldlRecOn (motive := (·.ok = true)) args argStep (b := { acc := init, key := [] }) rfl
      fun st hs a ha => ?_
    unfold argStep
    rcases h a ha with ⟨s, rfl⟩ | ⟨v, rfl⟩ <;> split <;> exact hs
  simp [argsToAttrs, key]

/-- (7) Every payload ends with a line feed, in every format, for every record. -/
theorem payload_ends_with_newline (f : Fmt) (isPrint : Nat → Bool) (p : Presentation) (depth : Nat) (r : Record)
    (out : Bytes) (h : encodeRecord f isPrint p depth r = some out) : out.getLast? = some 10 := by
  obtain ⟨body, rfl⟩ := encodeRecord_ends h
  exact List.getLast?_concat ..

/-- (8) JSON and logfmt produce a payload for every record whatsoever (any message bytes, any
    attributes): the encoder has no failing input there. Colored mode does whenever the tag width
    is one ShortTag accepts and the message has no markup characters. -/
theorem plain_formats_total (f : Fmt) (hf : f ≠ .color) (isPrint : Nat → Bool) (p : Presentation) (depth : Nat) (r : Record) :
    (encodeRecord f isPrint p depth r).isSome = true := by
  cases hb : (r.lvl == Lv.always && isBlank r.msg) with
  | true => rw [encodeRecord_blank hb]; rfl
  | false => rw [encodeRecord_plain hf hb]; rfl

/-- (9) A blank Print/Println — severity Always, message empty or only white space — is exactly
    one line feed, whatever the format, the arguments and the logger's attributes. -/
theorem blank_print_is_one_newline (k : CallShape) (msg : Bytes) (args : List Arg) (hb : isBlank msg = true)
    (hd : (argsToAttrs k.loggerAttrs args).isSome = true) :
    callPayload k Lv.always msg args = some [10] := by
  unfold callPayload
  cases h : argsToAttrs k.loggerAttrs args with
  | none => simp [h] at hd
  | some attrs => exact encodeRecord_blank (Bool.and_eq_true_iff.2 ⟨beq_self_eq_true _, hb⟩)

/-- The shortcut as the code has it now (regenerated from printImpl). -/
theorem blank_shortcut_decision (lvl : Int) (blank : Bool) :
    Gen.blankShortcut lvl blank = (lvl == Lv.always && blank) := by
  simp [Gen.blankShortcut, Lv.always]

/-- What the verbs, the log/slog handler and the std log bridge share: a record that is encoded and handed to
    the routed destinations is one whole payload, ending in a line feed, once per selected destination. -/
theorem record_written_once {g : Globals} {cfg : WriterCfg} {sev : Int} {f : Fmt} {isPrint : Nat → Bool}
    {p : Presentation} {depth : Nat} {r : Record} {ws : List (Wid × Bytes)}
    (h : (encodeRecord f isPrint p depth r).map (fun pl => (routeGen g cfg sev).map fun w => (w, pl)) = some ws) :
    ∃ payload, encodeRecord f isPrint p depth r = some payload ∧ payload.getLast? = some 10 ∧
      ws.map Prod.fst = routeSpec g cfg sev ∧ ∀ e ∈ ws, e.2 = payload := by
  cases hp : encodeRecord f isPrint p depth r with
  | none => rw [hp] at h; cases h
  | some payload =>
    rw [hp] at h; cases h
    refine ⟨payload, rfl, payload_ends_with_newline _ _ _ _ _ _ hp, ?_, ?_⟩
    · rw [List.map_map]; exact (List.map_id' _).trans (C03.route_is_spec ..)
    · intro e he; obtain ⟨w, -, rfl⟩ := List.mem_map.1 he; rfl

/-- (10) An admitted call: the destinations written to are exactly the ones selected for the
    severity — each occurrence once, in order — and every one of those Writes carries the same
    whole payload, which ends with a line feed. -/
theorem admitted_once_each (c : CallCtx) (k : CallShape) (sev : Int) (msg : Bytes) (args : List Arg)
    (ha : Gen.enabled c.g c.level sev = true) (ws : List (Wid × Bytes))
    (h : callWrites c k sev msg args = some ws) :
    ∃ payload, callPayload k sev msg args = some payload ∧ payload.getLast? = some 10 ∧
      ws.map Prod.fst = routeSpec c.g c.cfg sev ∧ ∀ e ∈ ws, e.2 = payload := by
  rw [callWrites, if_pos ha] at h
  unfold callPayload at h ⊢
  cases hargs : argsToAttrs k.loggerAttrs args with
  | none => rw [hargs] at h; cases h
  | some attrs => rw [hargs] at h; exact record_written_once h

/-- (11) A call that is not admitted writes to no destination at all — whatever its arguments
    (even ones outside the modelled domain: they are never looked at). -/
theorem not_admitted_silent (c : CallCtx) (k : CallShape) (sev : Int) (msg : Bytes) (args : List Arg)
    (h : Gen.enabled c.g c.level sev = false) : callWrites c k sev msg args = some [] := by
  simp [callWrites, h]

/-- (12) The Write events of the call are those of the delivery model of C03/C13 (one attempt
    per selected destination); with healthy destinations there is no second record. -/
theorem writes_agree_with_delivery (c : CallCtx) (k : CallShape) (sev : Int) (msg : Bytes) (args : List Arg)
    (ws : List (Wid × Bytes)) (h : callWrites c k sev msg args = some ws) (hh : ∀ n, c.fails n = false) :
    (logCall c 0 sev).1.length ≤ 1 ∧
    ws.map Prod.fst = ((logCall c 0 sev).1.flatMap fun ev => (ev.filter C03.isWrite).map C03.eventWriter) := by
  refine ⟨C13.no_diagnostic_without_failure c 0 sev hh, ?_⟩
  rw [C13.logCall_healthy c 0 sev hh]
  cases ha : Gen.enabled c.g c.level sev
  · cases (not_admitted_silent c k sev msg args ha).symm.trans h
    rfl
  · obtain ⟨_, _, _, hws, _⟩ := admitted_once_each c k sev msg args ha ws h
    simp [hws, C13.siblings_served]

/-- (13) The call returns normally for every severity other than Panic and Fatal (regenerated
    termination decision), whatever the flags. -/
theorem non_terminating_returns (g : Globals) (sev : Int) (h0 : sev ≠ Lv.panic) (h1 : sev ≠ Lv.fatal) :
    Gen.terminate g sev = Outcome.continue :=
  C12.others_never_terminate g sev h0 h1

/-- (14) One Write per destination per record: the structure of printOut and LWs.Write the
    delivery model rests on (regenerated). printOut has no way out (return, panic, exit) before the
    Write call: whether a record that reached it is handed over does not depend on any other record
    being in flight. -/
theorem one_write_per_record : Gen.writesPerPrintOut = 1 ∧ Gen.lwsWriteLoops = 1 ∧ Gen.lwsWriteEarlyExit = false ∧
    Gen.printOutExitsBeforeWrite = 0 := by decide

/-- (15) `Println(x, rest…)` with a non-string `x` logs `fmt.Sprint(x)` as the message and `rest`
    as the attributes — it does not drop the record; `Println()` logs the empty message. -/
theorem println_split (x : Arg) (rest : List Arg) (sprint : Bytes) :
    (printlnSplit [] sprint = ([], [])) ∧
    (∀ s, printlnSplit (.str s :: rest) sprint = (s, rest)) ∧
    ((∀ s, x ≠ .str s) → printlnSplit (x :: rest) sprint = (sprint, rest)) := by
  refine ⟨rfl, fun _ => rfl, ?_⟩
  intro h
  cases x with
  | str s => exact absurd rfl (h s)
  | val _ => rfl
  | attr _ => rfl
  | attrs _ => rfl

/-- With healthy destinations one call yields exactly one record if it is admitted and none
    otherwise, wherever the history stands. -/
theorem healthy_call_once (c : CallCtx) (start : Nat) (sev : Int) (hh : ∀ n, c.fails n = false) :
    (logCall c start sev).1.length = if Gen.enabled c.g c.level sev then 1 else 0 := by
  rw [C13.logCall_healthy c start sev hh]
  split <;> rfl

/-- (15) Exactly once, for whole histories: over any sequence of calls with healthy
    destinations, the output of the history is the per-call output of each call taken on its own
    (nothing is carried from call to call, nothing is delivered later or twice), and each call
    contributes exactly one record when admitted and none when not. -/
theorem healthy_history_once_each (c : CallCtx) (start : Nat) (sevs : List Int) (hh : ∀ n, c.fails n = false) :
    (runCalls c start sevs).1 = sevs.map (fun sev => (logCall c 0 sev).1) ∧
    (runCalls c start sevs).1.map List.length = sevs.map (fun sev => if Gen.enabled c.g c.level sev then 1 else 0) := by
  -- wherever the history stands, the call is the one on the never-failing schedule, and so is the call at 0
  have h1 := C13.runCalls_eq_map c (fun sev => (logCall c 0 sev).1) start sevs fun n _ sev =>
    (C13.call_after_recovery c n 0 sev fun m _ => hh m).trans (C13.call_after_recovery c 0 0 sev fun m _ => hh m).symm
  refine ⟨h1, ?_⟩
  rw [h1, List.map_map]
  exact List.map_congr_left fun sev _ => healthy_call_once c 0 sev hh

/-- (16) Delivery is independent of the history: whatever calls came before (admitted or not, at
    any severity), a call on healthy destinations delivers exactly what it delivers as the first
    call of a fresh run, and the earlier output is left as it was. -/
theorem call_independent_of_history (c : CallCtx) (start : Nat) (before : List Int) (sev : Int)
    (hh : ∀ n, c.fails n = false) :
    (runCalls c start (before ++ [sev])).1 = (runCalls c start before).1 ++ [(logCall c 0 sev).1] := by
  rw [C13.history_splits, (healthy_history_once_each c _ [sev] hh).1]
  rfl

-- non-vacuity: an Info logger with healthy destinations 5 (normal) and 6 (error); the history
-- Info, Debug, Trace, Warn yields one record each for the admitted calls and none for the others
example :
    (runCalls { g := { errorDevice := [(3, true)] }, level := 4, cfg := some { normal := [5], error := [6], leveled := [] },
                settable := fun _ => false, fails := fun _ => false } 0 [4, 5, 6, 3]).1
      = [[[.write 5 true]], [], [], [[.write 6 true]]] := by decide

-- non-vacuity: the arguments of `Info("m", 7, "k", nil, "dangling")`: the malformed key and the dangling
-- key leave `k=null` only
example :
    argsToAttrs [] [.val (.int 7), .str [107], .val .nil, .str [100]] = some [some ([107], false, .nil)] := by
  simp [argsToAttrs, argsRun, argStep, Arg.asValue]

end Logg.Props.C02
