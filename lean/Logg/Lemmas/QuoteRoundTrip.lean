/-
  Round trip of the Go-syntax quoting: strconv.Unquote (model goUnquote) of what the encoder's
  appendQuotedWith (model goQuote) wrote gives the original bytes back — for every byte string.
-/
import Logg.Lemmas.QuoteClean
namespace Logg
open Logg.Lemmas

theorem unquoteChar_plain {c : UInt8} (rest : Bytes) (h34 : c ≠ 34) (h92 : c ≠ 92) (hl : c < 0x80) :
    unquoteChar (c :: rest) = some ([c], rest) :=
  (if_neg (mt beq_iff_eq.1 h34)).trans ((if_neg (UInt8.not_le.2 hl)).trans (if_pos (bne_iff_ne.2 h92)))

theorem unquoteChar_high {b0 : UInt8} (t : Bytes) (hb : 128 ≤ b0.toNat) :
    unquoteChar (b0 :: t) = some (encodeRune (decodeRune (b0 :: t)).1, (b0 :: t).drop (decodeRune (b0 :: t)).2) :=
  (if_neg fun h => absurd (beq_iff_eq.1 h ▸ hb) (by decide)).trans (if_pos (show b0 ≥ 0x80 from UInt8.le_iff_toNat_le.2 hb))

theorem unquoteChar_raw (r : Nat) (h0 : 0x80 ≤ r) (hv : validRune r = true) (rest : Bytes) :
    unquoteChar (encodeRune r ++ rest) = some (encodeRune r, rest) := by
  obtain ⟨b0, cs, he⟩ := List.exists_cons_of_ne_nil (encodeRune_ne_nil r)
  have hb := encodeRune_high r h0 b0 (he ▸ List.mem_cons_self)
  have hd := decode_encode r h0 hv rest
  rw [he] at hd ⊢
  rw [List.cons_append, unquoteChar_high _ hb, ← List.cons_append, hd, List.drop_left, he]

theorem unquoteChar_hexbyte (b0 : UInt8) (rest : Bytes) :
    unquoteChar (([92, 120] : Bytes) ++ hex2 b0.toNat ++ rest) = some ([b0], rest) := by
  have hl : (hex2 b0.toNat).length = 2 := rfl
  simp [unquoteChar, List.take_left' hl, List.drop_left' hl, hl, hexValue_hex2, Nat.mod_eq_of_lt b0.toNat_lt]

theorem unquoteChar_u4 (r : Nat) (hr : r < 0x10000) (hv : validRune r = true) (rest : Bytes) :
    unquoteChar (([92, 117] : Bytes) ++ hex4 r ++ rest) = some (encodeRune r, rest) := by
  have hl : (hex4 r).length = 4 := rfl
  have he : (if r < 0x80 then [r.toUInt8] else encodeRune r) = encodeRune r := by
    split
    · exact (encodeRune_ascii r ‹_›).symm
    · rfl
  simp [unquoteChar, List.take_left' hl, List.drop_left' hl, hl, hexValue_hex4, Nat.mod_eq_of_lt hr, hv, he]

theorem unquoteChar_u8 (r : Nat) (hr : 0x10000 ≤ r) (hv : validRune r = true) (rest : Bytes) :
    unquoteChar (([92, 85] : Bytes) ++ hex8 r ++ rest) = some (encodeRune r, rest) := by
  have hm : r < 4294967296 := by have := (validRune_iff r).1 hv; omega
  have hl : (hex8 r).length = 8 := rfl
  simp [unquoteChar, List.take_left' hl, List.drop_left' hl, hl, hexValue_hex8, Nat.mod_eq_of_lt hm, hv,
    Nat.not_lt.2 (Nat.le_trans (by decide : 128 ≤ 0x10000) hr)]

theorem unquoteChar_escapeRune (isPrint : Nat → Bool) (r : Nat) (hv : validRune r = true) (rest : Bytes) :
    unquoteChar (escapeRune isPrint r ++ rest) = some (encodeRune r, rest) := by
  refine escapeRune_cases isPrint r (P := fun e => unquoteChar (e ++ rest) = some (encodeRune r, rest)) ?_ ?_ ?_ ?_ ?_ ?_
  · rintro (rfl | rfl) <;> rfl
  · intro _ h34 h92
    by_cases hl : r < 0x80
    · have e := UInt8.toNat_ofNat_of_lt' (Nat.lt_trans hl (by decide))
      rw [encodeRune_ascii r hl]
      exact unquoteChar_plain rest (fun h => h34 (e ▸ congrArg UInt8.toNat h)) (fun h => h92 (e ▸ congrArg UInt8.toNat h))
        (UInt8.lt_iff_toNat_lt.2 (e.symm ▸ hl))
    · exact unquoteChar_raw r (Nat.le_of_not_lt hl) hv rest
  · have : ∀ p ∈ shortEscapes, p.1 < 0x80 ∧ unquoteChar (92 :: p.2 :: rest) = some ([p.1.toUInt8], rest) := by
      simp only [shortEscapes, List.forall_mem_cons]
      exact ⟨⟨by decide, rfl⟩, ⟨by decide, rfl⟩, ⟨by decide, rfl⟩, ⟨by decide, rfl⟩, ⟨by decide, rfl⟩, ⟨by decide, rfl⟩,
        ⟨by decide, rfl⟩, nofun⟩
    intro c hc
    obtain ⟨hl, h⟩ := this _ hc
    rw [encodeRune_ascii r hl]; exact h
  · intro h
    have hl : r < 0x80 := by omega
    have := unquoteChar_hexbyte r.toUInt8 rest
    rwa [UInt8.toNat_ofNat_of_lt' (Nat.lt_trans hl (by decide)), ← encodeRune_ascii r hl] at this
  · intro v hv' h
    rw [if_pos hv] at h; subst h
    exact unquoteChar_u4 v hv' hv rest
  · exact fun _ h => unquoteChar_u8 r h hv rest

theorem escapeRune_ne_nil (isPrint : Nat → Bool) (r : Nat) : escapeRune isPrint r ≠ [] :=
  escapeRune_cases isPrint r (P := (· ≠ [])) (fun _ => nofun) (fun _ _ _ => encodeRune_ne_nil r) (fun _ _ => nofun)
    (fun _ => nofun) (fun _ _ _ => nofun) (fun _ _ => nofun)

/-- one character read off the front: a step of `unquoteBody`, with the fuel it needs -/
theorem unquoteBody_step {E Q out x : Bytes} (hE : E ≠ []) (h : unquoteChar (E ++ Q) = some (out, Q))
    (ih : ∀ f, Q.length ≤ f → unquoteBody f Q = some x) : ∀ f, (E ++ Q).length ≤ f → unquoteBody f (E ++ Q) = some (out ++ x) := by
  intro f hf
  obtain ⟨e, es, rfl⟩ := List.exists_cons_of_ne_nil hE
  cases f with
  | zero => exact absurd hf (by simp)
  | succ f =>
    have hq : Q.length ≤ f := by rw [List.cons_append, List.length_cons, List.length_append] at hf; omega
    simp only [List.cons_append] at h ⊢
    simp only [unquoteBody, h, ih f hq, Option.map_some]

theorem unquoteBody_nil (f : Nat) : unquoteBody f [] = some [] := by cases f <;> rfl

theorem getLast?_quoted (body : Bytes) : (34 :: (body ++ [34]) : Bytes).getLast? = some 34 :=
  List.getLast?_concat (l := 34 :: body)

theorem unquoteBody_quoteBody (isPrint : Nat → Bool) (fuel : Nat) (s : Bytes) :
    s.length ≤ fuel → ∀ f, (quoteBody isPrint fuel s).length ≤ f → unquoteBody f (quoteBody isPrint fuel s) = some s := by
  induction fuel, s using quoteBody.induct_unfolding isPrint with
  | case1 s => intro hs f _; rw [List.eq_nil_of_length_eq_zero (Nat.le_zero.1 hs)]; exact unquoteBody_nil f
  | case2 => exact fun _ f _ => unquoteBody_nil f
  | case3 fuel b0 t hb ih =>
    intro hs
    have hr := UInt8.lt_iff_toNat_lt.1 hb
    have h := unquoteChar_escapeRune isPrint b0.toNat ((validRune_iff _).2 (Or.inl (Nat.lt_trans hr (by decide))))
      (quoteBody isPrint fuel t)
    rw [encodeRune_ascii _ hr, Nat.toUInt8_eq, UInt8.ofNat_toNat] at h
    exact unquoteBody_step (escapeRune_ne_nil isPrint _) h (ih (Nat.le_of_succ_le_succ hs))
  | case4 fuel b0 t hb r w hd he ih =>
    exact fun hs =>
      unquoteBody_step (E := [92, 120] ++ hex2 b0.toNat) nofun (unquoteChar_hexbyte b0 _) (ih (Nat.le_of_succ_le_succ hs))
  | case5 fuel b0 t hb r w hd he ih =>
    intro hs
    obtain ⟨h0, hv, rfl, t', e⟩ := decodeRune_high hb hd fun h => he (by rw [h.1, h.2]; rfl)
    rw [e, List.drop_left] at ih ⊢
    exact unquoteBody_step (escapeRune_ne_nil isPrint _) (unquoteChar_escapeRune isPrint r hv _)
      (ih (encodeRune_tail_le h0 hv (e ▸ hs)))

/-- **Round trip of the Go-syntax quoting** (logfmt and colored mode): `strconv.Unquote` of what
    the encoder writes for a string-like value is that value — for every byte string, valid
    UTF-8 or not, and every printability predicate that never calls a control byte printable. -/
theorem goUnquote_goQuote (isPrint : Nat → Bool) (hp : PrintSafe isPrint) (s : Bytes) :
    goUnquote (goQuote isPrint s) = some s := by
  have hclean := quoteBody_clean isPrint hp s.length s
  have hrt := unquoteBody_quoteBody isPrint s.length s (Nat.le_refl _) _ (Nat.le_refl _)
  unfold goQuote
  generalize quoteBody isPrint s.length s = body at hclean hrt ⊢
  have hnm : ¬ (10 : UInt8) ∈ body := fun hm => absurd (hclean 10 hm).1 (by decide)
  simp [goUnquote, getLast?_quoted, hnm, hrt]
end Logg
