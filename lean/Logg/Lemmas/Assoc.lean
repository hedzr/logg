/- `List.lookup` after `assocSet` (the model's `m[k] = v` on the association lists that stand for Go maps). -/
import Logg.Model.Basic

namespace Logg.Lemmas
open Logg

theorem lookup_assocSet {α β} [BEq α] [LawfulBEq α] (m : List (α × β)) (k k' : α) (v : β) :
    List.lookup k (assocSet m k' v) = if k == k' then some v else List.lookup k m := by
  induction m with
  | nil => cases h : k == k' <;> simp [assocSet, List.lookup, h]
  | cons p m ih =>
    obtain ⟨a, c⟩ := p
    by_cases hak : a = k'
    · subst hak
      cases h : k == a <;> simp [assocSet, List.lookup, h]
    · have hak' : (a == k') = false := beq_false_of_ne hak
      cases h : k == a
      · simp [assocSet, List.lookup, hak', h, ih]
      · cases eq_of_beq h
        simp [assocSet, List.lookup, hak']

theorem lookup_assocSet_self {α β} [BEq α] [LawfulBEq α] (m : List (α × β)) (k : α) (v : β) :
    List.lookup k (assocSet m k v) = some v := by
  simp [lookup_assocSet]

theorem lookup_assocSet_ne {α β} [BEq α] [LawfulBEq α] (m : List (α × β)) (k k' : α) (v : β) (h : k ≠ k') :
    List.lookup k (assocSet m k' v) = List.lookup k m := by
  simp [lookup_assocSet, beq_false_of_ne h]

theorem lookup_assocSet_eq_some {α β} [BEq α] [LawfulBEq α] {m : List (α × β)} {k k' : α} {v x : β}
    (h : List.lookup k (assocSet m k' v) = some x) : (k = k' ∧ x = v) ∨ (k ≠ k' ∧ List.lookup k m = some x) := by
  rw [lookup_assocSet] at h
  by_cases hk : k = k'
  · rw [if_pos (beq_iff_eq.2 hk)] at h; exact .inl ⟨hk, (Option.some.inj h).symm⟩
  · rw [if_neg (mt beq_iff_eq.1 hk)] at h; exact .inr ⟨hk, h⟩

theorem mem_of_lookup {α β} [BEq α] [LawfulBEq α] {m : List (α × β)} {k : α} {v : β}
    (h : List.lookup k m = some v) : (k, v) ∈ m := by
  obtain ⟨l₁, l₂, rfl, -⟩ := List.lookup_eq_some_iff.1 h
  exact List.mem_append_right _ List.mem_cons_self

end Logg.Lemmas
