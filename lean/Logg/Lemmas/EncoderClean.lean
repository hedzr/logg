/-
  The JSON and logfmt encoders never emit a control byte: one walk over values and attribute lists
  (groups at any depth), then the pieces of the record; a record is one line. (The scalar case and `atomsOK` also serve
  colored mode: Lemmas/Layout.)
-/
import Logg.Lemmas.Encoder
import Logg.Lemmas.QuoteClean

namespace Logg.Lemmas
open Logg

def noC0B (bs : Bytes) : Bool := bs.all fun c => decide (32 ≤ c.toNat)

theorem noC0_iff_B {bs : Bytes} : NoC0 bs ↔ noC0B bs = true := by
  simp only [NoC0, noC0B, List.all_eq_true, decide_eq_true_eq]

theorem noC0_of_B {bs : Bytes} (h : noC0B bs = true) : NoC0 bs := noC0_iff_B.mpr h

/-- the texts a value carries that are written WITHOUT escaping (atoms rendered by the standard library,
    and — outside JSON — keys) contain no control byte -/
def atomsOK (keysRaw : Bool) : (fuel : Nat) → Val → Bool
  | _, .float t => noC0B t
  | _, .complex re im => noC0B re && noC0B im
  | _, .time t => noC0B t
  | _, .tstamp t => noC0B t
  | _, .floats xs => xs.all noC0B
  | _, .complexes xs => xs.all fun p => noC0B p.1 && noC0B p.2
  | _, .times xs => xs.all noC0B
  | 0, .group _ => true
  | fuel + 1, .group items => items.all fun a =>
      match a with
      | none => true
      | some (k, _, v) => (!keysRaw || noC0B k) && atomsOK keysRaw fuel v
  | _, _ => true

def attrOK (keysRaw : Bool) (fuel : Nat) : Attr → Bool
  | none => true
  | some (k, _, v) => (!keysRaw || noC0B k) && atomsOK keysRaw fuel v

theorem atomsOK_group {kr : Bool} {fuel : Nat} {items : List Attr} (h : atomsOK kr (fuel + 1) (.group items) = true) :
    ∀ a ∈ prepAttrs items, attrOK kr fuel a = true := all_prepAttrs (p := attrOK kr fuel) h


theorem natDigits_noC0 (n : Nat) : NoC0 (natDigits n) := fun c hc => by
  have := natDigits_digit n c hc; omega
theorem intDigits_noC0 (i : Int) : NoC0 (intDigits i) := fun c hc => by
  rcases intDigits_byte i c hc with rfl | h
  · decide
  · omega

theorem bracket_map_noC0 {α} {f : α → Bytes} {xs : List α} (h : ∀ x ∈ xs, NoC0 (f x)) : NoC0 (bracket (xs.map f)) :=
  noC0_append (noC0_append (noC0_single (by decide))
    (joinWith_closed noC0_nil noC0_append (noC0_single (by decide)) _ fun y hy => by
      obtain ⟨x, hx, rfl⟩ := List.mem_map.mp hy; exact h x hx)) (noC0_single (by decide))

structure PlainCfg (c : EncCfg) : Prop where
  noColor : c.fmt ≠ .color
  printSafe : PrintSafe c.isPrint

theorem quote_noC0 {c : EncCfg} (hp : PrintSafe c.isPrint) (s : Bytes) : NoC0 (c.quote s) := by
  unfold EncCfg.quote quoteValue
  split
  · exact jsonQuote_noC0 s
  · exact clean_noC0 (goQuote_clean _ hp s)

theorem rawQuoted_noC0 {t : Bytes} (h : NoC0 t) : NoC0 ([34] ++ t ++ [34]) :=
  noC0_append (noC0_append (noC0_single (by decide)) h) (noC0_single (by decide))

theorem jsonQuoted_noC0 (c : EncCfg) {t : Bytes} (h : NoC0 t) : NoC0 (jsonQuoted c t) := by
  unfold jsonQuoted; split; exact rawQuoted_noC0 h; exact h

theorem boolText_noC0 (b : Bool) : NoC0 (boolText b) := by cases b <;> exact noC0_of_B (by decide)

theorem complexText_noC0 {re im : Bytes} (h1 : NoC0 re) (h2 : NoC0 im) : NoC0 (complexText re im) :=
  complexText_closed noC0_append (noC0_of_B rfl) (noC0_of_B rfl) (noC0_of_B rfl) h1 h2

theorem timeText_noC0 (c : EncCfg) {t : Bytes} (h : NoC0 t) : NoC0 (timeText c t) := by
  unfold timeText; split; exact rawQuoted_noC0 h; exact h

theorem tstampText_noC0 (c : EncCfg) {t : Bytes} (h : NoC0 t) : NoC0 (tstampText c t) := by
  unfold tstampText; split; exact rawQuoted_noC0 h; exact noC0_append h (noC0_single (by decide))

/-- every value but a group, and but an error in colored mode (which is wrapped in red), is written
    without a control byte -/
theorem scalar_noC0 {c : EncCfg} (hp : PrintSafe c.isPrint) {kr : Bool} {fuel : Nat} {v : Val}
    (hok : atomsOK kr fuel v = true) (hng : isGroupVal v = false) (herr : c.fmt = .color → ∀ m, v ≠ .err m)
    (pfx : Bytes) : NoC0 (encVal c fuel pfx v) := by
  have hq := quote_noC0 hp
  cases v with
  | group items => cases hng
  | nil => simp only [encVal]; split <;> exact noC0_of_B (by decide)
  | str s | dur s | bytes s | fallback s => simp only [encVal]; exact hq s
  | bool b => simp only [encVal]; exact boolText_noC0 b
  | int i => simp only [encVal]; exact intDigits_noC0 i
  | uint n => simp only [encVal]; exact jsonQuoted_noC0 c (natDigits_noC0 n)
  | float t => simp only [encVal]; rw [atomsOK] at hok; exact jsonQuoted_noC0 c (noC0_of_B hok)
  | complex re im =>
    simp only [encVal]; simp only [atomsOK, Bool.and_eq_true] at hok
    exact jsonQuoted_noC0 c (complexText_noC0 (noC0_of_B hok.1) (noC0_of_B hok.2))
  | time t => simp only [encVal]; rw [atomsOK] at hok; exact timeText_noC0 c (noC0_of_B hok)
  | tstamp t => simp only [encVal]; rw [atomsOK] at hok; exact tstampText_noC0 c (noC0_of_B hok)
  | err m =>
    simp only [encVal]
    cases hf : c.fmt with
    | json => exact noC0_append (noC0_append (noC0_append (noC0_append (noC0_single (by decide)) (jsonQuote_noC0 _))
        (noC0_single (by decide))) (hq m)) (noC0_single (by decide))
    | logfmt => exact hq m
    | color => exact absurd rfl (herr hf m)
  | strs xs | durs xs => simp only [encVal]; exact bracket_map_noC0 fun s _ => hq s
  | bools xs => simp only [encVal]; exact bracket_map_noC0 fun b _ => boolText_noC0 b
  | ints xs => simp only [encVal]; exact bracket_map_noC0 fun i _ => intDigits_noC0 i
  | uints xs => simp only [encVal]; exact bracket_map_noC0 fun n _ => natDigits_noC0 n
  | floats xs =>
    simp only [encVal]; rw [atomsOK] at hok
    exact bracket_map_noC0 fun t ht => jsonQuoted_noC0 c (noC0_of_B (List.all_eq_true.mp hok t ht))
  | complexes xs =>
    simp only [encVal]; simp only [atomsOK, List.all_eq_true, Bool.and_eq_true] at hok
    exact bracket_map_noC0 fun p hp => jsonQuoted_noC0 c (complexText_noC0 (noC0_of_B (hok p hp).1) (noC0_of_B (hok p hp).2))
  | times xs =>
    simp only [encVal]; rw [atomsOK] at hok
    exact bracket_map_noC0 fun t ht => timeText_noC0 c (noC0_of_B (List.all_eq_true.mp hok t ht))
  | textm t fb => simp only [encVal]; split <;> exact hq _

theorem dotPrefix_noC0 {k pfx : Bytes} (hk : NoC0 k) (hp : NoC0 pfx) : NoC0 (dotPrefix k pfx) := by
  unfold dotPrefix
  split
  · exact hk
  · exact noC0_append (noC0_append hp (noC0_single (by decide))) hk

theorem plain_noColor {c : EncCfg} (hc : PlainCfg c) : c.noColor = true := by
  have := hc.noColor
  unfold EncCfg.noColor
  cases hf : c.fmt <;> first | rfl | exact absurd hf this

theorem comma_noC0 (c : EncCfg) : NoC0 c.comma := by unfold EncCfg.comma; split <;> exact noC0_single (by decide)
theorem colon_noC0 (c : EncCfg) : NoC0 c.colon := by unfold EncCfg.colon; split <;> exact noC0_single (by decide)

/-- a key or dotted-key prefix as it is written raw, which is outside JSON only (JSON keys are escaped and not dotted) -/
def PfxOK (c : EncCfg) (pfx : Bytes) : Prop := c.json = true ∨ NoC0 pfx

theorem key_noC0 {c : EncCfg} {k : Bytes} (hk : PfxOK c k) : NoC0 (c.key k) := by
  unfold EncCfg.key
  split
  · exact jsonQuote_noC0 k
  · exact hk.resolve_left ‹_›

/-- **no control byte in a value text nor in what an attribute list writes**, given the domain and a clean prefix -/
theorem enc_noC0 {c : EncCfg} (hc : PlainCfg c) : ∀ fuel,
    (∀ (v : Val) (pfx : Bytes), atomsOK (!c.json) fuel v = true → PfxOK c pfx → NoC0 (encVal c fuel pfx v)) ∧
    (∀ (as : List Attr) (pfx : Bytes) (skip : Bool), (∀ a ∈ as, attrOK (!c.json) fuel a = true) → PfxOK c pfx →
      NoC0 (encAttrs c fuel pfx skip as)) := by
  have hn := plain_noColor hc
  refine Val.fuel_induct ?scalar ?group0 ?group ?nil ?none ?some
  case scalar =>
    intro fuel v hv pfx hok _
    exact scalar_noC0 hc.printSafe hok hv (fun h => absurd h hc.noColor) pfx
  case group0 => intro items pfx _ _; rw [encVal]; exact noC0_nil
  case group =>
    intro fuel items ih pfx hok hp
    have hm := atomsOK_group hok
    rw [encVal, hn]
    split
    · exact noC0_append (noC0_append (noC0_single (by decide)) (ih pfx true hm hp)) (noC0_single (by decide))
    · exact noC0_append (ih pfx false hm hp) noC0_nil
  case nil => intro fuel pfx skip _ _; rw [encAttrs]; exact noC0_nil
  case none => intro fuel rest ih pfx skip h hp; rw [encAttrs]; exact ih pfx skip (List.forall_mem_cons.1 h).2 hp
  case some =>
    intro fuel k g v rest ihv ih pfx skip h hp
    obtain ⟨ha, hr⟩ := List.forall_mem_cons.1 h
    simp only [attrOK, Bool.and_eq_true, Bool.or_eq_true, Bool.not_eq_true'] at ha
    -- the key as written: quoted in JSON, dotted and raw otherwise
    have hdot : PfxOK c (if c.json = true then k else dotPrefix k pfx) := by
      by_cases hj : c.json = true
      · exact Or.inl hj
      · rw [if_neg hj]
        have hk : noC0B k = true := ha.1.resolve_left (by simp [hj])
        exact Or.inr (dotPrefix_noC0 (noC0_of_B hk) (hp.resolve_left hj))
    simp only [encAttrs, hn, if_true]
    refine noC0_append (noC0_append (noC0_append ?_ ?_) (ihv _ ha.2 hdot))
      (ih pfx false hr hp)
    · split; exact noC0_nil; exact comma_noC0 c
    · split; exact noC0_nil; exact noC0_append (key_noC0 hdot) (colon_noC0 c)

-- the two halves under the names the checks audit (tools/propcfg.py)
theorem vals_all {c : EncCfg} (hc : PlainCfg c) (fuel : Nat) (v : Val) (pfx : Bytes) :
    atomsOK (!c.json) fuel v = true → PfxOK c pfx → NoC0 (encVal c fuel pfx v) := (enc_noC0 hc fuel).1 v pfx

theorem attrs_all {c : EncCfg} (hc : PlainCfg c) (fuel : Nat) (as : List Attr) (pfx : Bytes) (skip : Bool) :
    (∀ a ∈ as, attrOK (!c.json) fuel a = true) → PfxOK c pfx → NoC0 (encAttrs c fuel pfx skip as) :=
  (enc_noC0 hc fuel).2 as pfx skip

theorem topAttrs_noC0 {c : EncCfg} (hc : PlainCfg c) (depth : Nat) (attrs : List Attr)
    (hok : ∀ a ∈ attrs, attrOK (!c.json) depth a = true) : NoC0 (encTopAttrs c depth attrs) := by
  unfold encTopAttrs
  rw [plain_noColor hc]
  exact noC0_append (attrs_all hc depth _ [] false (fun a ha => hok a (prepAttrs_subset attrs a ha)) (Or.inr noC0_nil))
    noC0_nil

/- The record's head and caller field are rows of literals, quoted strings, digits and separators:
   `simp` splits at `++` and uses up the pieces that are not literals; the literals are then evaluated. -/

theorem plainHead_noC0 {c : EncCfg} (hc : PlainCfg c) (levelName : Bytes) (r : Record) (hts : NoC0 r.ts) :
    NoC0 (plainHead c levelName r) := by
  have hq := quote_noC0 hc.printSafe
  have hk : ∀ k : Bytes, noC0B k = true → NoC0 (c.key k) := fun k h => key_noC0 (Or.inr (noC0_of_B h))
  simp only [plainHead, apply_ite NoC0, noC0_append_iff, hq, hts, comma_noC0, colon_noC0,
    jsonQuote_noC0, hk [116, 105, 109, 101] rfl, hk [108, 101, 118, 101, 108] rfl, hk [109, 115, 103] rfl, and_true, true_and]
  simp (config := { decide := true }) only [noC0_iff_B, ite_self, and_self]

theorem plainCaller_noC0 {c : EncCfg} (hc : PlainCfg c) (r : Record) : NoC0 (plainCaller c r) := by
  have hq := quote_noC0 hc.printSafe
  unfold plainCaller
  split
  · exact noC0_nil
  · simp only [apply_ite NoC0, noC0_append_iff, jsonQuote_noC0, hq, intDigits_noC0, comma_noC0, and_true, true_and]
    simp (config := { decide := true }) only [noC0_iff_B, ite_self, and_self]

theorem plainBody_noC0 {c : EncCfg} (hc : PlainCfg c) (levelName : Bytes) (depth : Nat) (r : Record)
    (hts : NoC0 r.ts) (hattrs : ∀ a ∈ r.attrs, attrOK (!c.json) depth a = true) :
    NoC0 (plainBody c levelName depth r) := by
  unfold plainBody
  refine noC0_append (noC0_append (noC0_append (plainHead_noC0 hc levelName r hts) (topAttrs_noC0 hc depth r.attrs hattrs))
    (plainCaller_noC0 hc r)) ?_
  split <;> exact noC0_of_B (by decide)

/-- **a JSON or logfmt record is one line**: a body without control bytes, then one line feed -/
theorem plain_one_line {f : Fmt} (hf : f ≠ .color) {isPrint : Nat → Bool} (hp : PrintSafe isPrint) {p : Presentation}
    {depth : Nat} {r : Record} {out : Bytes} (hts : NoC0 r.ts)
    (hattrs : ∀ a ∈ r.attrs, attrOK (f != .json) depth a = true)
    (h : encodeRecord f isPrint p depth r = some out) : ∃ body, out = body ++ [10] ∧ NoC0 body := by
  cases hb : (r.lvl == Lv.always && isBlank r.msg) with
  | true => rw [encodeRecord_blank hb] at h; exact ⟨[], (Option.some.inj h).symm, noC0_nil⟩
  | false =>
    rw [encodeRecord_plain hf hb] at h
    exact ⟨_, (Option.some.inj h).symm, plainBody_noC0 ⟨hf, hp⟩ _ depth r hts hattrs⟩

end Logg.Lemmas
