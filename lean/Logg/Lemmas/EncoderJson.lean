/-
  The JSON member reader applied to the JSON encoder: for every record the line is one object whose
  members are exactly the fields that were logged, in the order written, each value text the
  encoder's rendering of that value (a nested group again such an object).
-/
import Logg.Model.Encoder
import Logg.Lemmas.JsonRead
import Logg.Lemmas.Encoder

namespace Logg
open Logg.Lemmas

structure JsonCfg (c : EncCfg) : Prop where
  fmt : c.fmt = .json

theorem JsonCfg.json {c : EncCfg} (h : JsonCfg c) : c.json = true := by simp [EncCfg.json, h.fmt]
theorem JsonCfg.noColor {c : EncCfg} (h : JsonCfg c) : c.noColor = true := by simp [EncCfg.noColor, h.fmt]
theorem JsonCfg.quote {c : EncCfg} (h : JsonCfg c) (s : Bytes) : c.quote s = jsonQuote s := by
  simp [EncCfg.quote, quoteValue, h.json]
theorem JsonCfg.comma {c : EncCfg} (h : JsonCfg c) : c.comma = [44] := by simp [EncCfg.comma, h.json]
theorem JsonCfg.colon {c : EncCfg} (h : JsonCfg c) : c.colon = [58] := by simp [EncCfg.colon, h.json]
theorem JsonCfg.key {c : EncCfg} (h : JsonCfg c) (k : Bytes) : c.key k = jsonQuote k := by simp [EncCfg.key, h.json]

/-- the texts a value carries that are written raw between quotes: no quote, no backslash -/
def okJ : (fuel : Nat) → Val → Bool
  | _, .float t => inqB t
  | _, .complex re im => inqB re && inqB im
  | _, .time t => inqB t
  | _, .tstamp t => inqB t
  | _, .floats xs => xs.all inqB
  | _, .complexes xs => xs.all fun p => inqB p.1 && inqB p.2
  | _, .times xs => xs.all inqB
  | 0, .group _ => true
  | fuel + 1, .group items => items.all fun a =>
      match a with
      | none => true
      | some (_, _, v) => okJ fuel v
  | _, _ => true

def attrOKJ (fuel : Nat) : Attr → Bool
  | none => true
  | some (_, _, v) => okJ fuel v

/-- the members a list of attributes stands for: (key literal, value text); the member's own key is the prefix of
    its value, as `encAttrs` has `dotted := k` in JSON mode -/
def memsOf (c : EncCfg) (fuel : Nat) (as : List Attr) : List (Bytes × Bytes) :=
  as.filterMap fun a => a.map fun kgv => (jsonQuote kgv.1, encVal c fuel kgv.1 kgv.2.2)

/-- in JSON mode the attribute loop writes its members comma-led, or comma-separated when it starts a
    nested object -/
theorem encAttrs_json {c : EncCfg} (hc : JsonCfg c) (fuel : Nat) (pfx : Bytes) (as : List Attr) :
    encAttrs c fuel pfx false as = commaEach ((memsOf c fuel as).map memOf) ∧
    encAttrs c fuel pfx true as = joinC ((memsOf c fuel as).map memOf) := by
  induction as with
  | nil => simp [encAttrs, memsOf, commaEach, joinC]
  | cons a rest ih =>
    cases a with
    | none => simp only [encAttrs, memsOf, List.filterMap_cons, Option.map_none]; exact ih
    | some kgv =>
      obtain ⟨k, g, v⟩ := kgv
      have hm : memsOf c fuel (some (k, g, v) :: rest) = (jsonQuote k, encVal c fuel k v) :: memsOf c fuel rest := by
        simp [memsOf]
      rw [hm]
      simp only [encAttrs, hc.json, hc.noColor, hc.comma, hc.colon, hc.key, Bool.not_true, Bool.and_false, Bool.false_eq_true, ↓reduceIte,
        List.map_cons, commaEach, joinC, memOf, ih.1, List.nil_append, List.append_assoc, List.cons_append, and_self]

theorem plainJ_digit (c : UInt8) (h : 48 ≤ c.toNat ∧ c.toNat ≤ 57) : plainJ c = true := by
  simp only [plainJ, Bool.and_eq_true, bne_iff_ne]
  exact ⟨⟨⟨⟨⟨⟨digit_ne h, digit_ne h⟩, digit_ne h⟩, digit_ne h⟩, digit_ne h⟩, digit_ne h⟩, digit_ne h⟩

theorem natDigits_jtok (n : Nat) : JTok (natDigits n) :=
  jtok_plain _ (fun c hc => plainJ_digit c (natDigits_digit n c hc))

theorem intDigits_jtok (i : Int) : JTok (intDigits i) :=
  jtok_plain _ (fun c hc => (intDigits_byte i c hc).elim (fun e => e ▸ rfl) (plainJ_digit c))

theorem boolText_jtok (b : Bool) : JTok (boolText b) := by
  cases b <;> exact jtok_plain _ (by decide)

theorem jinq_of_inqB {t : Bytes} (h : inqB t = true) : JInq t := jinq_plain t (inqB_plain h)

theorem natDigits_jinq (n : Nat) : JInq (natDigits n) :=
  jinq_plain _ fun c hc => have h := natDigits_digit n c hc; ⟨digit_ne h, digit_ne h⟩

theorem complexText_jinq {re im : Bytes} (h1 : JInq re) (h2 : JInq im) : JInq (complexText re im) :=
  complexText_closed jinq_append (jinq_plain _ (by decide)) (jinq_plain _ (by decide)) (jinq_plain _ (by decide)) h1 h2

theorem bracket_map_jtok {α} {f : α → Bytes} {xs : List α} (h : ∀ x ∈ xs, JTok (f x)) : JTok (bracket (xs.map f)) :=
  jtok_bracket 91 93 (Or.inl rfl) (Or.inl rfl) _
    (joinWith_closed jin_nil jin_append (jin_byte 44 (Or.inl rfl)) _ fun y hy => by
      obtain ⟨x, hx, rfl⟩ := List.mem_map.mp hy; exact jin_of_tok (h x hx))

theorem quote_jtok {c : EncCfg} (hc : JsonCfg c) (s : Bytes) : JTok (c.quote s) := by
  rw [hc.quote]; exact jsonQuote_jtok s

theorem jsonQuoted_jtok {c : EncCfg} (hc : JsonCfg c) {t : Bytes} (ht : JInq t) : JTok (jsonQuoted c t) := by
  rw [jsonQuoted, hc.json, if_pos rfl]; exact jtok_string t ht

theorem timeText_jtok {c : EncCfg} (hc : JsonCfg c) {t : Bytes} (ht : JInq t) : JTok (timeText c t) := by
  rw [timeText, hc.noColor, if_pos rfl]; exact jtok_string t ht

theorem tstampText_jtok {c : EncCfg} (hc : JsonCfg c) {t : Bytes} (ht : JInq t) : JTok (tstampText c t) := by
  rw [tstampText, hc.noColor, if_pos rfl]; exact jtok_string t ht

def kMessage : Bytes := [109, 101, 115, 115, 97, 103, 101]

theorem scalar_jtok {c : EncCfg} (hc : JsonCfg c) {fuel : Nat} {v : Val}
    (hok : okJ fuel v = true) (hng : isGroupVal v = false) (pfx : Bytes) : JTok (encVal c fuel pfx v) := by
  have hq := quote_jtok hc
  cases v with
  | group items => cases hng
  | nil => simp only [encVal, hc.json, if_true]; exact jtok_plain _ (by decide)
  | str s | dur s | bytes s | fallback s => simp only [encVal]; exact hq s
  | bool b => simp only [encVal]; exact boolText_jtok b
  | int i => simp only [encVal]; exact intDigits_jtok i
  | uint n => simp only [encVal]; exact jsonQuoted_jtok hc (natDigits_jinq n)
  | float t => simp only [encVal]; rw [okJ] at hok; exact jsonQuoted_jtok hc (jinq_of_inqB hok)
  | complex re im =>
    simp only [encVal]; simp only [okJ, Bool.and_eq_true] at hok
    exact jsonQuoted_jtok hc (complexText_jinq (jinq_of_inqB hok.1) (jinq_of_inqB hok.2))
  | time t => simp only [encVal]; rw [okJ] at hok; exact timeText_jtok hc (jinq_of_inqB hok)
  | tstamp t => simp only [encVal]; rw [okJ] at hok; exact tstampText_jtok hc (jinq_of_inqB hok)
  | err m =>
    -- an error is the object `{"message":…}`
    simp only [encVal, hc.fmt]
    have := jtok_object _ (.cons (jsonQuote_jtok kMessage) (hq m) .nil)
    simpa [joinC, commaEach, memOf, kMessage] using this
  | strs xs | durs xs => simp only [encVal]; exact bracket_map_jtok fun s _ => hq s
  | bools xs => simp only [encVal]; exact bracket_map_jtok fun b _ => boolText_jtok b
  | ints xs => simp only [encVal]; exact bracket_map_jtok fun i _ => intDigits_jtok i
  | uints xs => simp only [encVal]; exact bracket_map_jtok fun n _ => natDigits_jtok n
  | floats xs =>
    simp only [encVal]; rw [okJ] at hok
    exact bracket_map_jtok fun t ht => jsonQuoted_jtok hc (jinq_of_inqB (List.all_eq_true.mp hok t ht))
  | complexes xs =>
    simp only [encVal]; simp only [okJ, List.all_eq_true, Bool.and_eq_true] at hok
    exact bracket_map_jtok fun p hp => jsonQuoted_jtok hc (complexText_jinq (jinq_of_inqB (hok p hp).1) (jinq_of_inqB (hok p hp).2))
  | times xs =>
    simp only [encVal]; rw [okJ] at hok
    exact bracket_map_jtok fun t ht => timeText_jtok hc (jinq_of_inqB (List.all_eq_true.mp hok t ht))
  | textm t fb => simp only [encVal]; split <;> exact hq _

theorem group_text {c : EncCfg} (hc : JsonCfg c) (fuel : Nat) (pfx : Bytes) (items : List Attr) :
    encVal c (fuel + 1) pfx (.group items) = 123 :: (joinC ((memsOf c fuel (prepAttrs items)).map memOf) ++ [125]) := by
  simp only [encVal, hc.json, ↓reduceIte, (encAttrs_json hc fuel pfx (prepAttrs items)).2, List.cons_append, List.nil_append]

theorem okJ_group {fuel : Nat} {items : List Attr} (h : okJ (fuel + 1) (.group items) = true) :
    ∀ a ∈ prepAttrs items, attrOKJ fuel a = true := all_prepAttrs (p := attrOKJ fuel) h

/-- **every value is one token, and so is every member value of an attribute list** -/
theorem enc_jtok {c : EncCfg} (hc : JsonCfg c) : ∀ fuel,
    (∀ v pfx, okJ fuel v = true → JTok (encVal c fuel pfx v)) ∧
    (∀ as, (∀ a ∈ as, attrOKJ fuel a = true) → JPairs (memsOf c fuel as)) := by
  refine Val.fuel_induct ?scalar ?group0 ?group ?nil ?none ?some
  case scalar => intro fuel v hv pfx hok; exact scalar_jtok hc hok hv pfx
  case group0 => intro items pfx _; rw [encVal]; exact jtok_nil
  case group =>
    intro fuel items ih pfx hok
    rw [group_text hc]
    exact jtok_object _ (ih (okJ_group hok))
  case nil => intro fuel _; exact .nil
  case none => intro fuel rest ih h; exact ih (List.forall_mem_cons.1 h).2
  case some =>
    intro fuel k g v rest ihv ih h
    exact .cons (jsonQuote_jtok k) (ihv k (List.forall_mem_cons.1 h).1) (ih (List.forall_mem_cons.1 h).2)

theorem group_members {c : EncCfg} (hc : JsonCfg c) (fuel : Nat) (pfx : Bytes) (items : List Attr)
    (hok : okJ (fuel + 1) (.group items) = true) :
    jsonMembers (encVal c (fuel + 1) pfx (.group items)) = some (memsOf c fuel (prepAttrs items)) := by
  rw [group_text hc fuel pfx items]
  exact jsonMembers_object _ ((enc_jtok hc fuel).2 _ (okJ_group hok))

def kCaller : Bytes := [99, 97, 108, 108, 101, 114]
def kFile : Bytes := [102, 105, 108, 101]
def kLine : Bytes := [108, 105, 110, 101]
def kFunction : Bytes := [102, 117, 110, 99, 116, 105, 111, 110]

/-- time, logger (if named), level, msg: key literals and value texts -/
def headMems (c : EncCfg) (levelName : Bytes) (r : Record) : List (Bytes × Bytes) :=
  (jsonQuote kTime, 34 :: (r.ts ++ [34])) ::
    ((if r.name.isEmpty then [] else [(jsonQuote kLogger, jsonQuote r.name)]) ++
      [(jsonQuote kLevel, c.quote levelName), (jsonQuote kMsg, c.quote r.msg)])

def callerObjMems (c : EncCfg) (file : Bytes) (line : Int) (fn : Bytes) : List (Bytes × Bytes) :=
  [(jsonQuote kFile, c.quote file), (jsonQuote kLine, intDigits line), (jsonQuote kFunction, c.quote fn)]

def callerMems (c : EncCfg) (r : Record) : List (Bytes × Bytes) :=
  match r.caller with
  | none => []
  | some (file, line, fn, _) => [(jsonQuote kCaller, 123 :: (joinC ((callerObjMems c file line fn).map memOf) ++ [125]))]

/-- every member of the record's object, in the order written -/
def jsonFields (c : EncCfg) (levelName : Bytes) (depth : Nat) (r : Record) : List (Bytes × Bytes) :=
  headMems c levelName r ++ memsOf c depth (prepAttrs r.attrs) ++ callerMems c r

theorem plainHead_json {c : EncCfg} (hc : JsonCfg c) (levelName : Bytes) (r : Record) :
    plainHead c levelName r = 123 :: joinC ((headMems c levelName r).map memOf) := by
  -- both sides are the same bytes once the configuration is put in and `++` is associated one way
  cases hn : r.name.isEmpty <;>
    simp only [plainHead, headMems, hc.json, hc.comma, hc.colon, hc.key, hn, Bool.false_eq_true, ↓reduceIte, List.map_cons, List.map_nil,
      joinC, commaEach, memOf, kTime, kLevel, kMsg, kLogger, List.nil_append, List.append_assoc, List.cons_append, List.append_nil]

theorem plainCaller_json {c : EncCfg} (hc : JsonCfg c) (r : Record) :
    plainCaller c r = commaEach ((callerMems c r).map memOf) := by
  unfold plainCaller callerMems
  cases r.caller with
  | none => rfl
  | some cl =>
    obtain ⟨file, line, fn, shown⟩ := cl
    simp only [hc.json, hc.comma, ↓reduceIte, callerObjMems, List.map_cons, List.map_nil, joinC, commaEach, memOf, kCaller, kFile, kLine, kFunction,
      List.nil_append, List.append_assoc, List.cons_append, List.append_nil]

theorem plainBody_json {c : EncCfg} (hc : JsonCfg c) (levelName : Bytes) (depth : Nat) (r : Record) :
    plainBody c levelName depth r = 123 :: (joinC ((jsonFields c levelName depth r).map memOf) ++ [125]) := by
  have htop : encTopAttrs c depth r.attrs = commaEach ((memsOf c depth (prepAttrs r.attrs)).map memOf) := by
    unfold encTopAttrs
    simp only [hc.noColor, ↓reduceIte, List.append_nil, (encAttrs_json hc depth [] (prepAttrs r.attrs)).1]
  unfold plainBody
  rw [plainHead_json hc, htop, plainCaller_json hc]
  -- of the head only that it is not empty matters: `joinC` of a cons is the first member, then `commaEach`
  obtain ⟨h0, H, hH⟩ : ∃ h0 H, headMems c levelName r = h0 :: H := ⟨_, _, rfl⟩
  simp only [hc.json, ↓reduceIte, jsonFields, hH, List.map_append, List.map_cons, joinC, commaEach_append, List.cons_append, List.append_assoc]

theorem jsonFields_pairs {c : EncCfg} (hc : JsonCfg c) (levelName : Bytes) (depth : Nat) (r : Record)
    (hts : inqB r.ts = true) (hattrs : ∀ a ∈ r.attrs, attrOKJ depth a = true) : JPairs (jsonFields c levelName depth r) := by
  have hq := quote_jtok hc
  have hk := jsonQuote_jtok
  refine (JPairs.append (.cons (hk _) (jtok_string _ (jinq_of_inqB hts)) (.append ?_ (.cons (hk _) (hq _) (.cons (hk _) (hq _) .nil))))
    ((enc_jtok hc depth).2 _ fun a ha => hattrs a (prepAttrs_subset r.attrs a ha))).append ?_
  · split
    · exact .nil
    · exact .cons (hk _) (hk _) .nil
  · unfold callerMems
    split
    · exact .nil
    · exact .cons (hk _) (jtok_object _ (.cons (hk _) (hq _) (.cons (hk _) (intDigits_jtok _) (.cons (hk _) (hq _) .nil)))) .nil

/-- **the record's object reads back as exactly its fields** -/
theorem plainBody_members {c : EncCfg} (hc : JsonCfg c) (levelName : Bytes) (depth : Nat) (r : Record)
    (hts : inqB r.ts = true) (hattrs : ∀ a ∈ r.attrs, attrOKJ depth a = true) :
    jsonMembers (plainBody c levelName depth r) = some (jsonFields c levelName depth r) := by
  rw [plainBody_json hc]
  exact jsonMembers_object _ (jsonFields_pairs hc levelName depth r hts hattrs)

end Logg
