/-
  The logfmt reader applied to the logfmt encoder: for every record of the stated domain the line
  splits into exactly one token per field, `key=value`, in the order written (groups flattened under
  dotted keys at any depth).
-/
import Logg.Model.Encoder
import Logg.Lemmas.Logfmt
import Logg.Lemmas.Encoder

namespace Logg
open Logg.Lemmas

/-- an atom written bare: no space, no quote -/
def tokB (t : Bytes) : Bool := t.all fun c => c != 32 && c != 34
/-- a key (or dotted prefix): no space, no quote, no '=' -/
def keyB (k : Bytes) : Bool := k.all fun c => c != 32 && c != 34 && c != 61

/-- the texts a value carries that are written without escaping: bare atoms (no space, no quote), time texts
    between quotes (no quote, no backslash), keys; and only a group may be written without its own key (in the code
    the keyless kind, `gkvp`, holds `Attrs` only: the condition excludes what the model's type allows and Go's does not) -/
def tokOK : (fuel : Nat) → Val → Bool
  | _, .float t => tokB t
  | _, .complex re im => tokB re && tokB im
  | _, .time t => inqB t
  | _, .tstamp t => inqB t
  | _, .floats xs => xs.all tokB
  | _, .complexes xs => xs.all fun p => tokB p.1 && tokB p.2
  | _, .times xs => xs.all inqB
  | 0, .group _ => true
  | fuel + 1, .group items => items.all fun a =>
      match a with
      | none => true
      | some (k, g, v) => keyB k && (!g || isGroupVal v) && tokOK fuel v
  | _, _ => true

def attrTokOK (fuel : Nat) : Attr → Bool
  | none => true
  | some (k, g, v) => keyB k && (!g || isGroupVal v) && tokOK fuel v

theorem tokOK_group {fuel : Nat} {items : List Attr} (h : tokOK (fuel + 1) (.group items) = true) :
    ∀ a ∈ prepAttrs items, attrTokOK fuel a = true := all_prepAttrs (p := attrTokOK fuel) h

/-- a field as written: `key=value` -/
def tokOf (p : Bytes × Bytes) : Bytes := p.1 ++ 61 :: p.2

mutual
/-- the pairs one attribute stands for (at depth 0 a group stands for its bare key, as `encVal` writes nothing for it
    there: the fuel cut-off, not behaviour of the code) -/
def flatVal (c : EncCfg) : (fuel : Nat) → (dotted : Bytes) → (g : Bool) → Val → List (Bytes × Bytes)
  | 0, dotted, g, .group _ => if g then [] else [(dotted, [])]
  | fuel + 1, dotted, g, .group items => (if g then [] else [(dotted, [])]) ++ flatAttrs c fuel dotted (prepAttrs items)
  | fuel, dotted, _, v => [(dotted, encVal c fuel dotted v)]

/-- (dotted key, value text) of every scalar, groups flattened, in the order written; a group held by a plain
    key-value attribute leaves its own `key=` with an empty value before its members, as `encAttrs` writes it -/
def flatAttrs (c : EncCfg) : (fuel : Nat) → (pfx : Bytes) → List Attr → List (Bytes × Bytes)
  | _, _, [] => []
  | fuel, pfx, none :: rest => flatAttrs c fuel pfx rest
  | fuel, pfx, some (k, g, v) :: rest => flatVal c fuel (dotPrefix k pfx) g v ++ flatAttrs c fuel pfx rest
end

/-- the catch-all equation of `flatVal`; its side conditions say that `v` is not a group -/
theorem flatVal_scalar (c : EncCfg) {v : Val} (hv : isGroupVal v = false) (fuel : Nat) (dotted : Bytes) (g : Bool) :
    flatVal c fuel dotted g v = [(dotted, encVal c fuel dotted v)] :=
  flatVal.eq_3 c fuel dotted g v (fun _ _ h => by rw [h] at hv; cases hv) (fun _ _ _ h => by rw [h] at hv; cases hv)

def KeyOK (k : Bytes) : Prop := ∀ c ∈ k, c ≠ 32 ∧ c ≠ 34 ∧ c ≠ 61

theorem keyOK_of_B {k : Bytes} (h : keyB k = true) : KeyOK k := by
  intro c hc
  have := List.all_eq_true.mp h c hc
  simp only [Bool.and_eq_true, bne_iff_ne, ne_eq] at this
  exact ⟨this.1.1, this.1.2, this.2⟩

theorem keyOK_lit (k : Bytes) (h : keyB k = true := by decide) : KeyOK k := keyOK_of_B h

theorem keyOK_nil : KeyOK [] := fun _ hc => nomatch hc

theorem keyOK_dot {k pfx : Bytes} (hk : KeyOK k) (hp : KeyOK pfx) : KeyOK (dotPrefix k pfx) := by
  unfold dotPrefix
  split
  · exact hk
  · intro c hc
    simp only [List.mem_append, List.mem_singleton] at hc
    rcases hc with (h | h) | h
    · exact hp c h
    · subst h; decide
    · exact hk c h

theorem bal_key {k : Bytes} (h : KeyOK k) : Bal k := bal_plain k (fun c hc => ⟨(h c hc).1, (h c hc).2.1⟩)

theorem bal_of_tokB {t : Bytes} (h : tokB t = true) : Bal t :=
  bal_plain t (fun c hc => by have := List.all_eq_true.mp h c hc; simpa using this)

theorem inq_of_inqB {t : Bytes} (h : inqB t = true) : Inq t := inq_plain t (inqB_plain h)

theorem bal_lit (t : Bytes) (h : tokB t = true := by decide) : Bal t := bal_of_tokB h

theorem natDigits_bal (n : Nat) : Bal (natDigits n) :=
  bal_plain _ fun c hc => have h := natDigits_digit n c hc; ⟨digit_ne h, digit_ne h⟩

theorem intDigits_bal (i : Int) : Bal (intDigits i) :=
  bal_plain _ fun c hc => (intDigits_byte i c hc).elim (fun e => e ▸ by decide) fun h => ⟨digit_ne h, digit_ne h⟩

theorem boolText_bal (b : Bool) : Bal (boolText b) := by
  cases b <;> exact bal_lit _

theorem complexText_bal {re im : Bytes} (h1 : Bal re) (h2 : Bal im) : Bal (complexText re im) :=
  complexText_closed bal_append (bal_lit _) (bal_lit _) (bal_lit _) h1 h2

theorem bracket_map_bal {α} {f : α → Bytes} {xs : List α} (h : ∀ x ∈ xs, Bal (f x)) : Bal (bracket (xs.map f)) :=
  bal_append (bal_append (a := [91]) (bal_lit _)
    (joinWith_closed bal_nil bal_append (bal_lit [44]) _ fun y hy => by
      obtain ⟨x, hx, rfl⟩ := List.mem_map.mp hy; exact h x hx)) (bal_lit [93])

structure LogfmtCfg (c : EncCfg) : Prop where
  fmt : c.fmt = .logfmt

theorem LogfmtCfg.json {c : EncCfg} (h : LogfmtCfg c) : c.json = false := by simp [EncCfg.json, h.fmt]
theorem LogfmtCfg.noColor {c : EncCfg} (h : LogfmtCfg c) : c.noColor = true := by simp [EncCfg.noColor, h.fmt]
theorem LogfmtCfg.quote {c : EncCfg} (h : LogfmtCfg c) (s : Bytes) : c.quote s = goQuote c.isPrint s := by
  simp [EncCfg.quote, quoteValue, h.json]
theorem LogfmtCfg.comma {c : EncCfg} (h : LogfmtCfg c) : c.comma = [32] := by simp [EncCfg.comma, h.json]
theorem LogfmtCfg.colon {c : EncCfg} (h : LogfmtCfg c) : c.colon = [61] := by simp [EncCfg.colon, h.json]
theorem LogfmtCfg.key {c : EncCfg} (h : LogfmtCfg c) (k : Bytes) : c.key k = k := by simp [EncCfg.key, h.json]

theorem quote_bal {c : EncCfg} (h : LogfmtCfg c) (s : Bytes) : Bal (c.quote s) := by
  rw [h.quote]; exact goQuote_bal _ _

theorem jsonQuoted_bal {c : EncCfg} (h : LogfmtCfg c) {t : Bytes} (ht : Bal t) : Bal (jsonQuoted c t) := by
  rw [jsonQuoted, h.json, if_neg Bool.false_ne_true]; exact ht

theorem timeText_bal {c : EncCfg} (h : LogfmtCfg c) {t : Bytes} (ht : Inq t) : Bal (timeText c t) := by
  rw [timeText, h.noColor, if_pos rfl]; exact bal_quoted t ht

theorem tstampText_bal {c : EncCfg} (h : LogfmtCfg c) {t : Bytes} (ht : Inq t) : Bal (tstampText c t) := by
  rw [tstampText, h.noColor, if_pos rfl]; exact bal_quoted t ht

theorem scalar_bal {c : EncCfg} (hc : LogfmtCfg c) {fuel : Nat} {v : Val}
    (hok : tokOK fuel v = true) (hng : isGroupVal v = false) (pfx : Bytes) : Bal (encVal c fuel pfx v) := by
  have hq := quote_bal hc
  cases v with
  | group items => cases hng
  | nil => simp only [encVal, hc.json, Bool.false_eq_true, if_false]; exact bal_lit _
  | str s | dur s | bytes s | fallback s => simp only [encVal]; exact hq s
  | bool b => simp only [encVal]; exact boolText_bal b
  | int i => simp only [encVal]; exact intDigits_bal i
  | uint n => simp only [encVal]; exact jsonQuoted_bal hc (natDigits_bal n)
  | float t => simp only [encVal]; rw [tokOK] at hok; exact jsonQuoted_bal hc (bal_of_tokB hok)
  | complex re im =>
    simp only [encVal]; simp only [tokOK, Bool.and_eq_true] at hok
    exact jsonQuoted_bal hc (complexText_bal (bal_of_tokB hok.1) (bal_of_tokB hok.2))
  | time t => simp only [encVal]; rw [tokOK] at hok; exact timeText_bal hc (inq_of_inqB hok)
  | tstamp t => simp only [encVal]; rw [tokOK] at hok; exact tstampText_bal hc (inq_of_inqB hok)
  | err m => simp only [encVal, hc.fmt]; exact hq m
  | strs xs | durs xs => simp only [encVal]; exact bracket_map_bal fun s _ => hq s
  | bools xs => simp only [encVal]; exact bracket_map_bal fun b _ => boolText_bal b
  | ints xs => simp only [encVal]; exact bracket_map_bal fun i _ => intDigits_bal i
  | uints xs => simp only [encVal]; exact bracket_map_bal fun n _ => natDigits_bal n
  | floats xs =>
    simp only [encVal]; rw [tokOK] at hok
    exact bracket_map_bal fun t ht => jsonQuoted_bal hc (bal_of_tokB (List.all_eq_true.mp hok t ht))
  | complexes xs =>
    simp only [encVal]; simp only [tokOK, List.all_eq_true, Bool.and_eq_true] at hok
    exact bracket_map_bal fun p hp => jsonQuoted_bal hc (complexText_bal (bal_of_tokB (hok p hp).1) (bal_of_tokB (hok p hp).2))
  | times xs =>
    simp only [encVal]; rw [tokOK] at hok
    exact bracket_map_bal fun t ht => timeText_bal hc (inq_of_inqB (List.all_eq_true.mp hok t ht))
  | textm t fb => simp only [encVal]; split <;> exact hq _

theorem tokOf_bal {k v : Bytes} (hk : KeyOK k) (hv : Bal v) : Bal (tokOf (k, v)) :=
  bal_append (bal_key hk) (bal_append (bal_lit ([61] : Bytes)) hv)

/-- `TokRow x ps`: x is a row of space-led pieces — `key=value` for the pairs `ps` in order, or nothing —
    which the reader splits into exactly those pairs -/
def TokRow (x : Bytes) (ps : List (Bytes × Bytes)) : Prop := Spaced x (ps.map tokOf) ∧ ∀ p ∈ ps, KeyOK p.1

theorem TokRow.nil : TokRow [] [] := ⟨Spaced.nil, fun _ h => nomatch h⟩
/-- a space with nothing after it (before the members of a group written without its own key) -/
theorem TokRow.sp : TokRow [32] [] := ⟨Spaced.sp Spaced.nil, fun _ h => nomatch h⟩
theorem TokRow.one {k v : Bytes} (hk : KeyOK k) (hv : Bal v) : TokRow ([32] ++ k ++ [61] ++ v) [(k, v)] := by
  refine ⟨?_, fun p hp => by rw [List.mem_singleton.mp hp]; exact hk⟩
  have := Spaced.tok (tokOf_bal hk hv) (by simp [tokOf]) Spaced.nil
  simpa [tokOf] using this
theorem TokRow.append {x y : Bytes} {ps qs : List (Bytes × Bytes)} (hx : TokRow x ps) (hy : TokRow y qs) : TokRow (x ++ y) (ps ++ qs) :=
  ⟨by rw [List.map_append]; exact hx.1.append hy.1, fun p hp => (List.mem_append.mp hp).elim (hx.2 p) (hy.2 p)⟩

/-- the leading space and key part of one attribute; a group written without key leaves no pair -/
theorem TokRow.key {dotted : Bytes} (g : Bool) (hk : KeyOK dotted) :
    TokRow ([32] ++ (if g then [] else dotted ++ [61])) (if g then [] else [(dotted, [])]) := by
  cases g with
  | true => exact TokRow.sp
  | false => simpa using TokRow.one hk bal_nil

theorem splitPair_tokOf (p : Bytes × Bytes) (hk : KeyOK p.1) : splitPair (tokOf p) = some p :=
  splitPair_kv p.1 p.2 fun c hc => (hk c hc).2.2

/-- a line is a row without its leading space: the reader finds exactly the row's pairs -/
theorem TokRow.tokens {x : Bytes} {ps : List (Bytes × Bytes)} (h : TokRow (32 :: x) ps) :
    logfmtTokens x = ps.map tokOf ∧ (logfmtTokens x).map splitPair = ps.map some := by
  have ht : logfmtTokens x = ps.map tokOf := by
    have := tokensFrom_spaced h.1 []
    simpa [logfmtTokens, tokensFrom, emitTok] using this
  refine ⟨ht, ?_⟩
  rw [ht, List.map_map]
  exact List.map_congr_left fun q hq => splitPair_tokOf q (h.2 q hq)

/-- **the attributes are a row of their flattened pairs** -/
theorem enc_row {c : EncCfg} (hc : LogfmtCfg c) : ∀ fuel,
    (∀ v dotted g, tokOK fuel v = true → (g = true → isGroupVal v = true) → KeyOK dotted →
      TokRow ([32] ++ (if g then [] else dotted ++ [61]) ++ encVal c fuel dotted v) (flatVal c fuel dotted g v)) ∧
    (∀ as pfx, (∀ a ∈ as, attrTokOK fuel a = true) → KeyOK pfx →
      TokRow (encAttrs c fuel pfx false as) (flatAttrs c fuel pfx as)) := by
  refine Val.fuel_induct ?scalar ?group0 ?group ?nil ?none ?some
  case scalar =>
    intro fuel v hv dotted g hok hg hk
    cases g with
    | true => rw [hg rfl] at hv; cases hv
    | false => rw [flatVal_scalar c hv]; exact TokRow.one hk (scalar_bal hc hok hv dotted)
  case group0 => intro items dotted g _ _ hk; rw [encVal, flatVal, List.append_nil]; exact TokRow.key g hk
  case group =>
    intro fuel items ih dotted g hok _ hk
    simp only [encVal, flatVal, hc.json, hc.noColor, Bool.false_eq_true, if_false, if_true, List.append_nil]
    exact (TokRow.key g hk).append (ih dotted (tokOK_group hok) hk)
  case nil => intro fuel pfx _ _; rw [encAttrs, flatAttrs]; exact TokRow.nil
  case none =>
    intro fuel rest ih pfx h hp
    rw [encAttrs, flatAttrs]
    exact ih pfx (List.forall_mem_cons.1 h).2 hp
  case some =>
    intro fuel k g v rest ihv ih pfx h hp
    obtain ⟨ha, hr⟩ := List.forall_mem_cons.1 h
    simp only [attrTokOK, Bool.and_eq_true, Bool.or_eq_true, Bool.not_eq_true'] at ha
    have hg : g = true → isGroupVal v = true := fun e => ha.1.2.resolve_left (by rw [e]; decide)
    have := (ihv (dotPrefix k pfx) g ha.2 hg (keyOK_dot (keyOK_of_B ha.1.1) hp)).append
      (ih pfx hr hp)
    simpa only [encAttrs, flatAttrs, hc.json, hc.noColor, hc.comma, hc.colon, hc.key, Bool.false_eq_true, if_false, if_true,
      Bool.not_false, Bool.and_true, List.append_assoc] using this

theorem topAttrs_row {c : EncCfg} (hc : LogfmtCfg c) (depth : Nat) (attrs : List Attr)
    (hok : ∀ a ∈ attrs, attrTokOK depth a = true) :
    TokRow (encTopAttrs c depth attrs) (flatAttrs c depth [] (prepAttrs attrs)) := by
  unfold encTopAttrs
  rw [hc.noColor, if_pos rfl, List.append_nil]
  exact (enc_row hc depth).2 _ [] (fun a ha => hok a (prepAttrs_subset attrs a ha)) keyOK_nil

def kCallerFile : Bytes := [99, 97, 108, 108, 101, 114, 46, 102, 105, 108, 101]
def kCallerLine : Bytes := [99, 97, 108, 108, 101, 114, 46, 108, 105, 110, 101]
def kCallerFunction : Bytes := [99, 97, 108, 108, 101, 114, 46, 102, 117, 110, 99, 116, 105, 111, 110]

/-- time, logger (if named), level, msg -/
def headPairs (c : EncCfg) (levelName : Bytes) (r : Record) : List (Bytes × Bytes) :=
  [(kTime, 34 :: (r.ts ++ [34]))] ++ (if r.name.isEmpty then [] else [(kLogger, c.quote r.name)]) ++
    [(kLevel, c.quote levelName), (kMsg, c.quote r.msg)]

def callerPairs (c : EncCfg) (r : Record) : List (Bytes × Bytes) :=
  match r.caller with
  | none => []
  | some (file, line, fn, _) => [(kCallerFile, c.quote file), (kCallerLine, intDigits line), (kCallerFunction, c.quote fn)]

/-- every field of the record as the reader should find it -/
def logfmtPairs (c : EncCfg) (levelName : Bytes) (depth : Nat) (r : Record) : List (Bytes × Bytes) :=
  headPairs c levelName r ++ flatAttrs c depth [] (prepAttrs r.attrs) ++ callerPairs c r

theorem plainHead_row {c : EncCfg} (hc : LogfmtCfg c) (levelName : Bytes) (r : Record) (hts : inqB r.ts = true) :
    TokRow (32 :: plainHead c levelName r) (headPairs c levelName r) := by
  have hq := quote_bal hc
  have hlogger : TokRow (if r.name.isEmpty then [] else [32] ++ kLogger ++ [61] ++ c.quote r.name)
      (if r.name.isEmpty then [] else [(kLogger, c.quote r.name)]) := by
    split
    · exact .nil
    · exact .one (keyOK_lit kLogger) (hq r.name)
  have := ((TokRow.one (v := [34] ++ r.ts ++ [34]) (keyOK_lit kTime) (bal_quoted _ (inq_of_inqB hts))).append hlogger).append
    ((TokRow.one (keyOK_lit kLevel) (hq levelName)).append (.one (keyOK_lit kMsg) (hq r.msg)))
  -- the encoder writes the space after a field, the row before it: the same text once `++` is associated one way
  -- (`logger=` is `kLogger ++ [61]` by evaluation)
  cases hn : r.name.isEmpty <;>
    simp only [plainHead, headPairs, hn, hc.json, hc.comma, hc.colon, hc.key, Bool.false_eq_true, if_false, if_true,
      List.nil_append, List.append_nil, List.append_assoc] at this ⊢ <;>
    exact this

theorem plainCaller_row {c : EncCfg} (hc : LogfmtCfg c) (r : Record) : TokRow (plainCaller c r) (callerPairs c r) := by
  have hq := quote_bal hc
  unfold plainCaller callerPairs
  cases r.caller with
  | none => exact TokRow.nil
  | some cl =>
    obtain ⟨file, line, fn, shown⟩ := cl
    have := (TokRow.one (keyOK_lit kCallerFile) (hq file)).append
      ((TokRow.one (keyOK_lit kCallerLine) (intDigits_bal line)).append (TokRow.one (keyOK_lit kCallerFunction) (hq fn)))
    simp only [hc.json, hc.comma, Bool.false_eq_true, if_false, List.append_assoc] at this ⊢
    exact this

/-- **the line splits back into its fields**, each at its first `=` -/
theorem plainBody_fields {c : EncCfg} (hc : LogfmtCfg c) (levelName : Bytes) (depth : Nat) (r : Record)
    (hts : inqB r.ts = true) (hattrs : ∀ a ∈ r.attrs, attrTokOK depth a = true) :
    logfmtTokens (plainBody c levelName depth r) = (logfmtPairs c levelName depth r).map tokOf ∧
    (logfmtTokens (plainBody c levelName depth r)).map splitPair = (logfmtPairs c levelName depth r).map some := by
  rw [plainBody, hc.json, if_neg Bool.false_ne_true, List.append_nil]
  exact TokRow.tokens
    (((plainHead_row hc levelName r hts).append (topAttrs_row hc depth r.attrs hattrs)).append (plainCaller_row hc r))

end Logg
