/-
  The colored encoder writes the colourless layout with SGR sequences added, every colour off again before a line feed
  and at the end: one walk over values and attribute lists, one over the pieces of the record (both C06 statements).
-/
import Logg.Model.Layout
import Logg.Lemmas.SgrBase
import Logg.Lemmas.EncoderClean

namespace Logg
open Logg.Lemmas

/-- between sequences and no colour on -/
def Rst (s : Sgr) : Prop := Txt s ∧ s.colored = false

/-- `x` is `y` with colour sequences added: the remover leaves `y`, and a terminal in state `P` before `x` is in
    state `Q` after it. `Txt` to `Txt`: coloured text without a line feed while a colour is on; `Txt` to `Rst`: with every colour off
    at its end; `Rst` to `Rst`: lines of such text. -/
def Tint (P Q : Sgr → Prop) (x y : Bytes) : Prop := Strips x y ∧ ∀ s, P s → Q (sgrScan s x)

theorem Tint.nil {P : Sgr → Prop} : Tint P P [] [] := ⟨strips_nil, fun _ h => h⟩
theorem Tint.append {P Q R : Sgr → Prop} {a a' b b' : Bytes} (ha : Tint P Q a a') (hb : Tint Q R b b') :
    Tint P R (a ++ b) (a' ++ b') :=
  ⟨strips_append ha.1 hb.1, fun s hs => by rw [sgrScan_append]; exact hb.2 _ (ha.2 s hs)⟩
theorem Tint.pre {P Q R : Sgr → Prop} {a b b' : Bytes} (ha : Tint P Q a []) (hb : Tint Q R b b') : Tint P R (a ++ b) b' :=
  ha.append hb
theorem Tint.post {P Q R : Sgr → Prop} {a a' b : Bytes} (ha : Tint P Q a a') (hb : Tint Q R b []) : Tint P R (a ++ b) a' := by
  simpa using ha.append hb
theorem Tint.txt {P : Sgr → Prop} {x y : Bytes} (h : Tint P Rst x y) : Tint P Txt x y := ⟨h.1, fun s hs => (h.2 s hs).1⟩
theorem Tint.lines {x y : Bytes} (h : Tint Txt Rst x y) : Tint Rst Rst x y := ⟨h.1, fun s hs => h.2 s hs.1⟩

theorem Tint.plain {x : Bytes} (h : NoC0 x) : Tint Txt Txt x x :=
  ⟨strips_noC0 x h, fun s hs => by rw [sgrScan_plain s hs.1 x h]; exact hs⟩
theorem Tint.plainLine {x : Bytes} (h : NoC0 x) : Tint Rst Rst x x :=
  ⟨strips_noC0 x h, fun s hs => by rw [sgrScan_plain s hs.1.1 x h]; exact hs⟩
theorem Tint.of_esc {n : Int} (hn : 0 ≤ n) : Tint Txt Txt (esc n) [] :=
  ⟨strips_esc n hn, fun s hs => by rw [sgrScan_esc s hs n hn]; exact hs⟩

theorem Tint.reset : Tint Txt Rst escReset [] :=
  ⟨strips_esc 0 (Int.le_refl 0), fun s hs => by rw [show escReset = esc 0 from rfl, sgrScan_esc s hs 0 (Int.le_refl 0)]; exact ⟨hs, rfl⟩⟩
theorem Tint.thenReset {P : Sgr → Prop} {a a' : Bytes} (ha : Tint P Txt a a') : Tint P Rst (a ++ escReset) a' :=
  ha.post .reset

theorem Tint.of_echoColor {n : Int} (hn : -1 ≤ n) : Tint Txt Txt (echoColor n) [] := by
  unfold echoColor
  split
  · rename_i h; exact .of_esc (by simp at h; omega)
  · exact .nil
theorem Tint.of_echoColorAndBg {a b : Int} (ha : -1 ≤ a) (hb : -1 ≤ b) : Tint Txt Txt (echoColorAndBg a b) [] :=
  (Tint.of_echoColor ha).pre (.of_echoColor hb)

theorem Tint.wrap {text : Bytes} {clr bg : Int} (hc : -1 ≤ clr) (hb : -1 ≤ bg) (ht : NoC0 text) :
    Tint Txt Rst (wrapColorAndBg text clr bg) text :=
  (((Tint.of_echoColor hb).pre (.of_echoColor hc)).pre (.plain ht)).thenReset

theorem Tint.lf : Tint Rst Rst [10] [10] := by
  refine ⟨strips_plain [10] (by decide), fun s hs => ?_⟩
  obtain ⟨⟨h0, h1, h2⟩, h3⟩ := hs
  have : sgrScan s [10] = s := by
    cases s with
    | mk c m nz b => simp only at h0 h1 h2 h3; subst h0 h1 h2 h3; rfl
  rw [this]; exact ⟨⟨h0, h1, h2⟩, h3⟩

theorem Tint.join {α} {f g : α → Bytes} : ∀ {xs : List α}, (∀ x ∈ xs, Tint Rst Rst (f x) (g x)) →
    Tint Rst Rst (joinWith [10] (xs.map f)) (joinWith [10] (xs.map g))
  | [], _ => .nil
  | [x], h => h x (List.mem_singleton.mpr rfl)
  | x :: y :: rest, h =>
    ((h x (List.mem_cons_self ..)).append .lf).append (Tint.join (xs := y :: rest) fun z hz => h z (List.mem_cons_of_mem _ hz))

/-- messages of the fidelity domain: no control byte other than the line feed -/
def MsgOK (m : Bytes) : Prop := ∀ c ∈ m, 32 ≤ c.toNat ∨ c = 10

theorem trimRightNL_sub (s : Bytes) : ∀ c ∈ trimRightNL s, c ∈ s := fun _ hc =>
  List.mem_reverse.mp ((List.dropWhile_sublist _).subset (List.mem_reverse.mp hc))

theorem splitFirstRest_ok (m : Bytes) (h : MsgOK m) :
    NoC0 (splitFirstRest m).1 ∧ MsgOK (splitFirstRest m).2.1 := by
  unfold splitFirstRest
  split
  · exact ⟨noC0_nil, fun _ hc => nomatch hc⟩
  · dsimp only
    -- `s`: the message without its final line feeds; its bytes are bytes of `m`
    generalize hs : (if (m.getLast? == some 10) = true then trimRightNL m else m) = s
    have hsub : ∀ c ∈ s, c ∈ m := by
      rw [← hs]; split
      · exact trimRightNL_sub m
      · exact fun _ hc => hc
    have noLF : ∀ {t : Bytes}, (∀ c ∈ t, c ∈ s ∧ c ≠ 10) → NoC0 t := fun ht c hc =>
      (h c (hsub c (ht c hc).1)).resolve_right (ht c hc).2
    split
    · next ix hf =>
      obtain ⟨_, rfl⟩ := List.findIdx?_eq_some_iff_findIdx_eq.mp hf
      exact ⟨noLF fun c hc => ⟨List.mem_of_mem_take hc, ne_of_beq_false (List.false_of_mem_take_findIdx (p := (· == 10)) hc)⟩,
        fun c hc => h c (hsub c (List.mem_of_mem_drop hc))⟩
    · next hf =>
      exact ⟨noLF fun c hc => ⟨hc, ne_of_beq_false (List.findIdx?_eq_none_iff.mp hf c hc)⟩, fun _ hc => nomatch hc⟩

theorem splitStep_ok {c : UInt8} {acc : List Bytes} (hc : 32 ≤ c.toNat ∨ c = 10) (h : ∀ l ∈ acc, NoC0 l) :
    ∀ l ∈ splitStep c acc, NoC0 l := by
  unfold splitStep
  split
  · exact List.forall_mem_cons.2 ⟨noC0_nil, h⟩
  · have hc := hc.resolve_right (by simpa using ‹¬(c == 10) = true›)
    split
    · next l ls =>
      exact List.forall_mem_cons.2 ⟨noC0_cons hc (h l (List.mem_cons_self ..)), fun l' hl' => h l' (List.mem_cons_of_mem _ hl')⟩
    · exact List.forall_mem_cons.2 ⟨noC0_single hc, fun _ hl => nomatch hl⟩

theorem splitLines_ok (s : Bytes) (h : MsgOK s) : ∀ l ∈ splitLines s, NoC0 l := by
  unfold splitLines
  induction s with
  | nil => exact List.forall_mem_cons.2 ⟨noC0_nil, fun _ hl => nomatch hl⟩
  | cons c t ih => exact splitStep_ok (h c (List.mem_cons_self ..)) (ih fun x hx => h x (List.mem_cons_of_mem _ hx))

theorem replicate32_noC0 (n : Nat) : NoC0 (List.replicate n 32) := fun c hc => by
  rw [List.eq_of_mem_replicate hc]; decide

theorem rightPad_noC0 (s : Bytes) (w : Nat) (h : NoC0 s) : NoC0 (rightPad s w) :=
  noC0_append h (replicate32_noC0 _)

/-- what the colored layout takes from the registry and the call: nothing with a control byte, and colours that are
    numbers or -1 for "none" (`echoColor` writes `ESC [ n m` for every n ≠ -1; a smaller n would be a malformed sequence) -/
structure ColorInputs (p : Presentation) (r : Record) (depth : Nat) (tag : Bytes) : Prop where
  ts : NoC0 r.ts
  name : NoC0 r.name
  tag : NoC0 tag
  msg : MsgOK r.msg
  attrs : ∀ a ∈ r.attrs, attrOK true depth a = true
  caller : ∀ file line fn shown, r.caller = some (file, line, fn, shown) → NoC0 file ∧ NoC0 shown
  clr : -1 ≤ (levelColors p r.lvl).1
  bg : -1 ≤ (levelColors p r.lvl).2

/-- a colored configuration: safe `isPrint`, colours that are numbers or -1 for "none" -/
structure ColorCfg (c : EncCfg) : Prop where
  color : c.fmt = .color
  printSafe : PrintSafe c.isPrint
  clr : -1 ≤ c.clr
  bg : -1 ≤ c.bg

theorem ColorCfg.json {c : EncCfg} (hc : ColorCfg c) : c.json = false := by simp [EncCfg.json, hc.color]
theorem ColorCfg.noColor {c : EncCfg} (hc : ColorCfg c) : c.noColor = false := by simp [EncCfg.noColor, hc.color]

theorem plainVal_scalar {d : EncCfg} {v : Val} (hv : isGroupVal v = false) (he : ∀ m, v ≠ .err m) (fuel : Nat) (pfx : Bytes) :
    plainVal d fuel pfx v = encVal d 0 [] v := by
  cases v with
  | group items => cases hv
  | err m => exact absurd rfl (he m)
  | _ => simp only [plainVal]

/-- **The attribute part of a colored record is its colourless rendering with colours added**; the
    rendering (`d`) does not look at the colours in force (`c`). -/
theorem enc_tinted {c d : EncCfg} (hc : ColorCfg c) (hf : c.fmt = d.fmt) (hp : c.isPrint = d.isPrint) : ∀ fuel,
    (∀ v pfx, atomsOK true fuel v = true → NoC0 pfx → Tint Txt Txt (encVal c fuel pfx v) (plainVal d fuel pfx v)) ∧
    (∀ as pfx, (∀ a ∈ as, attrOK true fuel a = true) → NoC0 pfx →
      Tint Txt Txt (encAttrs c fuel pfx false as) (plainAttrs d fuel pfx as)) := by
  have hj := hc.json
  have hn := hc.noColor
  refine Val.fuel_induct ?scalar ?group0 ?group ?nil ?none ?some
  case scalar =>
    intro fuel v hv pfx hok _
    by_cases he : ∃ m, v = .err m
    · -- an error is written in red
      obtain ⟨m, rfl⟩ := he
      have hq : d.quote m = c.quote m := by simp only [EncCfg.quote, EncCfg.json, hf, hp]
      simp only [encVal, plainVal, hc.color, hq]
      exact ((Tint.of_esc (by decide)).pre (Tint.plain (quote_noC0 hc.printSafe m))).thenReset.txt
    · have he' : ∀ m, v ≠ .err m := fun m h => he ⟨m, h⟩
      rw [plainVal_scalar hv he', ← encVal_scalar hf hp hv fuel 0 pfx []]
      exact Tint.plain (scalar_noC0 hc.printSafe hok hv (fun _ => he') pfx)
  case group0 => intro items pfx _ _; rw [encVal, plainVal]; exact .nil
  case group =>
    intro fuel items ih pfx hok hp'
    simp only [encVal, plainVal, hj, hn, Bool.false_eq_true, if_false]
    exact (ih pfx (atomsOK_group hok) hp').thenReset.txt
  case nil => intro fuel pfx _ _; rw [encAttrs, plainAttrs]; exact .nil
  case none =>
    intro fuel rest ih pfx h hp'
    rw [encAttrs, plainAttrs]
    exact ih pfx (List.forall_mem_cons.1 h).2 hp'
  case some =>
    intro fuel k g v rest ihv ih pfx h hp'
    obtain ⟨ha, hr⟩ := List.forall_mem_cons.1 h
    simp only [attrOK, Bool.not_true, Bool.false_or, Bool.and_eq_true] at ha
    have hdot := dotPrefix_noC0 (noC0_of_B ha.1) hp'
    have hsep : Tint Txt Txt ([32] ++ echoColorAndBg c.clr c.bg) [32] :=
      (Tint.plain (noC0_of_B (by decide))).post (Tint.of_echoColorAndBg hc.clr hc.bg)
    have hkey : Tint Txt Txt (echoColorAndBg 90 (-1) ++ dotPrefix k pfx ++ echoColorAndBg c.clr c.bg ++ [61]) (dotPrefix k pfx ++ [61]) :=
      (((Tint.of_echoColorAndBg (by decide) (by decide)).pre (Tint.plain hdot)).post (Tint.of_echoColorAndBg hc.clr hc.bg)).append
        (Tint.plain (noC0_of_B (by decide)))
    have hrest := ih pfx hr hp'
    cases g <;>
      simp only [encAttrs, plainAttrs, EncCfg.colon, hj, hn, Bool.false_eq_true, if_false, if_true, Bool.not_false, Bool.and_true]
    · exact ((hsep.append hkey).append (ihv _ ha.2 hdot)).append hrest
    · exact ((hsep.append .nil).append (ihv _ ha.2 hdot)).append hrest

/-- **A colored record is its layout with colours added, all of them off at every line feed and at the end.** -/
theorem colorBody_tinted {c : EncCfg} (hc : ColorCfg c) {p : Presentation} {minWidth depth : Nat} {tag : Bytes} {r : Record}
    (hi : ColorInputs p r depth tag) :
    Tint Rst Rst (colorBody c minWidth depth tag r) (colorLayout c.isPrint minWidth depth tag r) := by
  have lit : ∀ {t : Bytes}, noC0B t = true → Tint Txt Txt t t := fun h => .plain (noC0_of_B h)
  have hmsg := splitFirstRest_ok r.msg hi.msg
  rcases hs : splitFirstRest r.msg with ⟨first, rest, eol⟩
  rw [hs] at hmsg
  simp only [colorBody, colorLayout, hs]
  -- both texts: the first line up to the attributes, the caller, the remaining message lines, a line feed
  refine (((Tint.lines ?first).append (R := Rst) ?caller).append ?rest).append .lf
  case first =>
    have t_time : Tint Txt Txt (esc 32 ++ r.ts ++ [124, 32]) (r.ts ++ [124, 32]) :=
      ((Tint.of_esc (by decide)).pre (.plain hi.ts)).append (lit (by decide))
    have t_logger : Tint Txt Txt (if r.name.isEmpty = true then [] else echoColorAndBg 37 (-1) ++ r.name ++ escReset ++ [32])
        (if r.name.isEmpty = true then [] else r.name ++ [32]) := by
      split
      · exact .nil
      · exact ((Tint.of_echoColorAndBg (by decide) (by decide)).pre (.plain hi.name)).thenReset.txt.append (lit (by decide))
    have t_sev : Tint Txt Txt (echoColorAndBg c.clr c.bg ++ [91] ++ tag ++ [93] ++ escReset ++ [32]) ([91] ++ tag ++ [93] ++ [32]) :=
      ((((Tint.of_echoColorAndBg hc.clr hc.bg).pre (lit (by decide))).append (.plain hi.tag)).append (lit (by decide))).thenReset.txt.append
        (lit (by decide))
    have o_first := Tint.wrap hc.clr hc.bg (rightPad_noC0 _ minWidth hmsg.1)
    have o_attrs := ((enc_tinted (d := { fmt := .color, isPrint := c.isPrint }) hc hc.color rfl depth).2 _ []
      (fun a ha => hi.attrs a (prepAttrs_subset r.attrs a ha)) noC0_nil).thenReset
    -- the same texts up to the association of `++`: the layout does not bracket the tag piece
    simpa only [encTopAttrs, hc.noColor, Bool.false_eq_true, if_false, List.append_assoc, List.cons_append, List.nil_append]
      using (((t_time.append t_logger).append t_sev).append o_first.txt).append o_attrs
  case caller =>
    cases hcl : r.caller with
    | none => exact .nil
    | some q =>
      obtain ⟨file, line, fn, shown⟩ := q
      obtain ⟨hf, hs⟩ := hi.caller file line fn shown hcl
      -- file `:` line ` ` function; the encoder writes two resets after the function name
      exact (((((((lit (by decide)).append (.plain hf)).append (lit (by decide))).append (.plain (intDigits_noC0 line))).append (lit (by decide))).post
        (Tint.of_esc (by decide))).append (.plain hs)).thenReset.txt.thenReset.lines
  case rest =>
    split
    · exact .nil
    · have hind : ∀ l ∈ splitLines rest, NoC0 (List.replicate 4 32 ++ l) :=
        fun l hl => noC0_append (replicate32_noC0 4) (splitLines_ok _ hmsg.2 l hl)
      refine (Tint.lf.append ?_).append (by split; exact .lf; exact .nil)
      split
      · -- a single remaining line is not coloured
        next l heq => rw [heq]; exact .plainLine (hind l (heq ▸ List.mem_singleton.mpr rfl))
      · exact .join fun l hl => (Tint.wrap hc.clr hc.bg (hind l hl)).lines

/-- **The colored record without its escape sequences is the layout.** -/
theorem colored_record_layout (isPrint : Nat → Bool) (hsafe : PrintSafe isPrint) (p : Presentation) (depth : Nat)
    (r : Record) (out tag : Bytes) (h : encodeRecord .color isPrint p depth r = some out)
    (hnb : (r.lvl == Lv.always && isBlank r.msg) = false)
    (htag : p.reg.shortTag r.lvl p.tagWidth = some tag)
    (hi : ColorInputs p r depth tag) :
    stripSgr out = colorLayout isPrint p.minWidth depth tag r := by
  obtain ⟨tag', ht, rfl⟩ := encodeRecord_color_some hnb h
  cases htag.symm.trans ht
  exact stripSgr_of (colorBody_tinted ⟨rfl, hsafe, hi.clr, hi.bg⟩ hi).1

/-- **No colour is on at a line feed or at the end of a colored record, and no sequence is malformed**
    (a blank Print included). -/
theorem colored_record_hygiene (isPrint : Nat → Bool) (hsafe : PrintSafe isPrint) (p : Presentation) (depth : Nat)
    (r : Record) (out : Bytes) (h : encodeRecord .color isPrint p depth r = some out)
    (hin : ∀ tag, p.reg.shortTag r.lvl p.tagWidth = some tag → ColorInputs p r depth tag) :
    Rst (sgrScan Sgr.init out) := by
  have hinit : Rst Sgr.init := ⟨⟨rfl, rfl, rfl⟩, rfl⟩
  cases hb : (r.lvl == Lv.always && isBlank r.msg) with
  | true => rw [encodeRecord_blank hb] at h; cases h; exact Tint.lf.2 _ hinit
  | false =>
    obtain ⟨tag, ht, rfl⟩ := encodeRecord_color_some hb h
    have hi := hin tag ht
    exact (colorBody_tinted ⟨rfl, hsafe, hi.clr, hi.bg⟩ hi).2 _ hinit

end Logg
