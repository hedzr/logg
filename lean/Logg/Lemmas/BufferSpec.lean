/-
  Every operation of the buffer simulates the specification's (`step_sim`) and panics only for its documented reason
  (`step_panics`): one pass over the arms of `bufStep` each, with a combinator per way an arm is built.
-/
import Logg.Lemmas.BufferRefine
import Logg.Lemmas.Utf8

namespace Logg

namespace Buf

variable {s : Buf} {q : Zip} {g : Except BufPanic (Buf × List Nat)}

/-- how a write ends: the new state and its result, or the panic of growing with the buffer as it was -/
def written (s0 : Buf) (res : BufRes) (g : Except BufPanic (Buf × List Nat)) : Buf × BufRes :=
  match g with
  | .ok (s', _) => (s', res)
  | .error e => (s0, .panic e)

def runeBytes (r : Int) : Bytes :=
  if 0 ≤ r ∧ r < 0x80 then [r.toNat.toUInt8] else encodeRune (if r < 0 then 0x110000 else r.toNat)

theorem written_bind (s0 : Buf) (res : BufRes) (g : Except BufPanic (Buf × List Nat)) (p : Bytes) :
    written s0 res (g >>= fun (s1, caps) => pure ({ s1 with data := s1.data ++ p }, caps)) =
      match g with
      | .ok (s1, _) => ({ s1 with data := s1.data ++ p }, res)
      | .error e => (s0, .panic e) := by
  rcases g with _ | ⟨_, _⟩ <;> rfl

/-- Write, WriteString and WriteByte are `written _ _ (put ..)` by definition; for WriteRune it takes this lemma -/
theorem bufStep_writeRune (s : Buf) (r : Int) (caps : List Nat) :
    bufStep s (.writeRune r) caps = written { s with lastRead := 0 } (.nErr (runeBytes r).length "")
      (({ s with lastRead := 0 } : Buf).put (if 0 ≤ r ∧ r < 0x80 then 1 else 4) (runeBytes r) caps) := by
  by_cases ha : 0 ≤ r ∧ r < 0x80
  · simp only [bufStep, runeBytes, if_pos ha]; rfl
  · simp only [bufStep, runeBytes, if_neg ha]; exact (written_bind ..).symm

/-- the outcome `o` of a step is the specification's `σ f` for one of the two choices "consumed bytes kept /
    forgotten": the new buffer represents its queue and the results are equal. A "too large" panic is outside
    the specification and only has to keep the invariant (the code has by then reset an exhausted buffer, the model
    has not: the two differ there, unobservably). -/
def Sim (o : Buf × BufRes) (σ : Bool → Zip × BufRes) : Prop :=
  (o.2 = .panic .tooLarge ∧ Props.C19.Inv o.1) ∨ ∃ f, Rep o.1 (σ f).1 ∧ o.2 = (σ f).2

namespace Sim

theorem det {s' : Buf} {q' : Zip} (h : Rep s' q') (r : BufRes) : Sim (s', r) fun _ => (q', r) :=
  .inr ⟨false, h, rfl⟩

theorem ite {c : Prop} [Decidable c] {a b : Buf × BufRes} {σa σb : Bool → Zip × BufRes}
    (ha : c → Sim a σa) (hb : ¬c → Sim b σb) : Sim (if c then a else b) fun f => if c then σa f else σb f := by
  split
  · exact ha ‹_›
  · exact hb ‹_›

theorem written {σ : Bool → Zip} (hg : Grows g fun s1 => ∃ f, Rep s1 (σ f)) {s0 : Buf} (h0 : Props.C19.Inv s0)
    (res : BufRes) : Sim (written s0 res g) fun f => (σ f, res) := by
  rcases hg with rfl | ⟨s1, c1, rfl, f, h1⟩
  · exact .inl ⟨rfl, h0⟩
  · exact .inr ⟨f, h1, rfl⟩

end Sim

theorem sim_put (h : Rep s q) (n : Nat) (p : Bytes) (caps : List Nat) (res : BufRes) :
    Sim (written { s with lastRead := 0 } res (({ s with lastRead := 0 } : Buf).put n p caps))
      fun f => ({ (({ q with lastRead := 0 } : Zip).fg f) with unread := q.unread ++ p }, res) :=
  .written ((put_grows _ n p caps).mono fun _ h1 => h1 _ (h.setLastRead 0) rfl) (h.setLastRead 0).inv res

/-- the loop of ReadFrom against the specification's: `acc` is what has been appended so far, and the consumed
    bytes may have been forgotten on the way -/
theorem sim_readFromLoop (hq : q.lastRead = 0) (st : List (Bytes × ReadErr)) :
    ∀ (t : Buf) (c : List Nat) (n : Int) (acc : Bytes), (∃ f, Rep t { q.fg f with unread := q.unread ++ acc }) →
      Sim (readFromLoop st t c n)
        fun f => ({ q.fg f with unread := q.unread ++ (specReadFrom st acc n).1 }, (specReadFrom st acc n).2) := by
  induction st with
  | nil => exact fun t c n acc ⟨f, ht⟩ => .inr ⟨f, ht, rfl⟩
  | cons x xs ih =>
    intro t c n acc ⟨f, ht⟩
    obtain ⟨chunk, e⟩ := x
    have hf : ({ q.fg f with unread := q.unread ++ acc } : Zip).lastRead = 0 := by cases f <;> exact hq
    rcases growRoom_grows₀ t minRead c with he | ⟨t1, c1, he, h1⟩ <;> simp only [readFromLoop, he]
    · exact .inl ⟨rfl, ht.inv⟩
    · obtain ⟨g, h1⟩ := h1 _ ht hf
      rw [Zip.fg_with_fg] at h1
      have h2 : Rep { t1 with data := t1.data ++ chunk } { q.fg (f || g) with unread := q.unread ++ (acc ++ chunk) } := by
        rw [← List.append_assoc]; exact h1.appendData chunk
      cases e
      · exact ih _ _ _ _ ⟨_, h2⟩
      · exact .inr ⟨_, h2, rfl⟩
      · exact .inr ⟨_, h2, rfl⟩
      · exact .inr ⟨_, h1, rfl⟩

theorem step_sim (h : Rep s q) (op : BufOp) (caps : List Nat) : Sim (bufStep s op caps) fun f => specStep q op f := by
  have h0 := h.setLastRead 0
  cases op with
  | write p | writeString p => exact sim_put h _ p caps _
  | writeByte c => exact sim_put h _ [c] caps _
  | writeRune r => rw [bufStep_writeRune]; exact sim_put h _ _ caps _
  | read n =>
    simp only [bufStep, specStep, h0.empty, h0.len, h0.unread]
    exact .ite (fun _ => .det (rep_reset _) _) fun _ => .det (h.advance (Nat.min_le_right ..) _) _
  | next n =>
    simp only [bufStep, specStep, h0.len, h0.unread]
    exact .ite (fun _ => .det h0 _) fun _ => .det (h.advance (clamp_toNat_le n _) _) _
  | readByte =>
    simp only [bufStep, specStep, h.empty, h.unread]
    exact .ite (fun _ => .det (rep_reset _) _) fun hc => .det (h.advance (length_pos_of_not_isEmpty hc) _) _
  | readRune =>
    simp only [bufStep, specStep, h.empty, h.unread]
    exact .ite (fun _ => .det (rep_reset _) _) fun hc =>
      .ite (fun _ => .det (h.advance (length_pos_of_not_isEmpty hc) _) _) fun _ =>
      .det (h.advance (decodeRune_width _) _) _
  | unreadRune =>
    simp only [bufStep, specStep, h.lastRead, ← h.off]
    refine .ite (fun _ => .det h _) fun _ => ?_
    split
    · exact .det (h.back _) _
    · exact .det h0 _
  | unreadByte =>
    simp only [bufStep, specStep, h.lastRead, ← h.off]
    refine .ite (fun _ => .det h _) fun _ => ?_
    split
    · exact .det (h.back 1) _
    · exact .det h0 _
  | readBytes d | readString d =>
    simp only [bufStep, specStep, h.unread]
    cases hi : indexByte q.unread d with
    | some i => exact .det (h.advance (indexByte_lt hi) _) _
    | none => exact .det (h.readAll _) _
  | readFrom steps =>
    exact sim_readFromLoop (q := { q with lastRead := 0 }) rfl steps _ caps 0 [] ⟨false, by rw [List.append_nil]; exact h0⟩
  | writeTo a fl =>
    simp only [bufStep, specStep, h0.len]
    refine .ite (fun _ => .ite (fun _ => .det h0 _) fun hle => .ite (fun _ => .det h0 _) fun _ => ?_) fun _ => .det (rep_reset _) _
    have hm : a.toNat ≤ q.unread.length := Int.toNat_le.2 (Int.not_lt.1 hle)
    exact .ite (fun _ => .det (h.advance hm 0) _) fun _ => .ite (fun _ => .det (h.advance hm 0) _) fun _ => .det (rep_reset _) _
  | truncate n =>
    simp only [bufStep, specStep, h0.len]
    exact .ite (fun _ => .det (rep_reset _) _) fun _ => .ite (fun _ => .det h0 _) fun _ => .det (h0.truncate _) _
  | grow n =>
    simp only [bufStep, specStep]
    exact .ite (fun _ => .det h _) fun _ => .written ((growRoom_grows s _ caps).mono fun _ h1 => h1 q h) h.inv _
  | reset => exact .det (rep_reset _) _
  | len => simp only [bufStep, specStep, h.len]; exact .det h _
  | bytes | string => simp only [bufStep, specStep, h.unread]; exact .det h _

def Panics (o : Buf × BufRes) (P : BufPanic → Prop) : Prop :=
  match o.2 with
  | .panic p => P p
  | _ => True

namespace Panics

variable {P : BufPanic → Prop}

theorem elim {o : Buf × BufRes} (h : Panics o P) {p : BufPanic} (hp : o.2 = .panic p) : P p := by
  unfold Panics at h; rwa [hp] at h

theorem ite {c : Prop} [Decidable c] {a b : Buf × BufRes}
    (ha : c → Panics a P) (hb : ¬c → Panics b P) : Panics (if c then a else b) P :=
  iteInduction (motive := (Panics · P)) ha hb

theorem written {Q : Buf → Prop} (hg : Grows g Q) (ht : P .tooLarge) (s0 : Buf) {res : BufRes}
    (hr : Panics (s0, res) P) : Panics (written s0 res g) P := by
  rcases hg with rfl | ⟨s1, c1, rfl, _⟩
  · exact ht
  · exact hr

end Panics

theorem readFromLoop_panics {P : BufPanic → Prop} (st : List (Bytes × ReadErr)) (ht : P .tooLarge)
    (hn : (∃ x ∈ st, x.2 = .negative) → P .negativeRead) :
    ∀ (t : Buf) (c : List Nat) (n : Int), Panics (readFromLoop st t c n) P := by
  induction st with
  | nil => exact fun _ _ _ => trivial
  | cons x xs ih =>
    intro t c n
    obtain ⟨chunk, e⟩ := x
    rcases growRoom_grows t minRead c with he | ⟨t1, c1, he, _⟩ <;> simp only [readFromLoop, he]
    · exact ht
    · cases e
      · exact ih (fun ⟨x, hx, e⟩ => hn ⟨x, List.mem_cons_of_mem _ hx, e⟩) _ _ _
      · trivial
      · trivial
      · exact hn ⟨_, List.mem_cons_self, rfl⟩

/-- the documented cause of each panic ("too large" depends on the capacity and the room asked for, and is not traced
    to its cause); `(step_panics s op caps).elim hp` gives the cause of a panic `hp` -/
def documented (s : Buf) (op : BufOp) : BufPanic → Prop
  | .runtime => (∃ n, op = .next n ∧ n < 0) ∨ (∃ a f, op = .writeTo a f ∧ a < 0)
  | .truncate => ∃ n, op = .truncate n ∧ (n < 0 ∨ n > (s.len : Int))
  | .growNegative => ∃ n, op = .grow n ∧ n < 0
  | .invalidWriteCount => ∃ a f, op = .writeTo a f ∧ a > (s.len : Int)
  | .negativeRead => ∃ st, op = .readFrom st ∧ ∃ x ∈ st, x.2 = .negative
  | .tooLarge => True

/-- whatever the state: no invariant is needed -/
theorem step_panics (s : Buf) (op : BufOp) (caps : List Nat) : Panics (bufStep s op caps) (documented s op) := by
  cases op with
  | write p | writeString p | writeByte c => exact .written (put_grows ..) trivial _ trivial
  | writeRune r => rw [bufStep_writeRune]; exact .written (put_grows ..) trivial _ trivial
  | grow n => exact .ite (fun h => ⟨n, rfl, h⟩) fun _ => .written (growRoom_grows ..) trivial _ trivial
  | readFrom steps => exact readFromLoop_panics steps trivial (fun h => ⟨steps, rfl, h⟩) _ _ _
  | next n =>
    simp only [bufStep]
    refine .ite (fun h => .inl ⟨n, rfl, ?_⟩) fun _ => trivial
    split at h <;> omega
  | writeTo a f =>
    simp only [bufStep]
    exact .ite (fun _ => .ite (fun h => ⟨a, f, rfl, h⟩) fun _ => .ite (fun h => .inr ⟨a, f, rfl, h⟩) fun _ =>
      .ite (fun _ => trivial) fun _ => .ite (fun _ => trivial) fun _ => trivial) fun _ => trivial
  | truncate n => exact .ite (fun _ => trivial) fun _ => .ite (fun h => ⟨n, rfl, h⟩) fun _ => trivial
  | read n => simp only [bufStep]; exact .ite (fun _ => by cases n == 0 <;> trivial) fun _ => trivial
  | readByte => exact .ite (fun _ => trivial) fun _ => trivial
  | readRune => exact .ite (fun _ => trivial) fun _ => .ite (fun _ => trivial) fun _ => trivial
  | unreadRune => exact .ite (fun _ => trivial) fun _ => trivial
  | unreadByte => exact .ite (fun _ => trivial) fun _ => trivial
  | readBytes d | readString d => simp only [bufStep]; split <;> trivial
  | reset | len | bytes | string => trivial

end Buf

end Logg
