/-
  Growing tables are `l.set q b ++ [c]`: one equation for their lookups. (Histories are left folds; their
  invariants and simulations come from core's `List.foldlRecOn`, `List.foldl_rel` and `List.foldl_hom`.)
-/
namespace Logg

theorem getElem?_snoc {α} (l : List α) (c : α) (i : Nat) : (l ++ [c])[i]? = if i = l.length then some c else l[i]? := by
  by_cases h : i = l.length
  · simp [h]
  · rw [if_neg h]
    rcases Nat.lt_or_gt_of_ne h with h | h
    · exact List.getElem?_append_left h
    · rw [List.getElem?_eq_none (by simp; omega), List.getElem?_eq_none (by omega)]

theorem getElem?_set_of_some {α} {l : List α} {q : Nat} {a : α} (h : l[q]? = some a) (b : α) (j : Nat) :
    (l.set q b)[j]? = if q = j then some b else l[j]? := by
  rw [List.getElem?_set, if_pos (List.getElem?_eq_some_iff.mp h).1]

theorem getElem?_set_snoc {α} {l : List α} {q : Nat} {a : α} (h : l[q]? = some a) (b c : α) (j : Nat) :
    (l.set q b ++ [c])[j]? = if j = l.length then some c else if q = j then some b else l[j]? := by
  rw [getElem?_snoc, List.length_set, getElem?_set_of_some h]

end Logg
