/-
  The two string escapers write piece after piece, and a case principle for each says which pieces. Hence what they emit is
  free of control bytes, and what the JSON escaper puts between the quotes is a well-formed JSON string body.
-/
import Logg.Model.Quote
import Logg.Model.IsPrint
import Logg.Lemmas.Utf8
import Logg.Lemmas.Hex

namespace Logg.Lemmas
open Logg

/-- no C0 control byte (in particular no LF / CR / ESC) and no DEL -/
def Clean (bs : Bytes) : Prop := ∀ c ∈ bs, 32 ≤ c.toNat ∧ c.toNat ≠ 127
/-- no C0 control byte -/
def NoC0 (bs : Bytes) : Prop := ∀ c ∈ bs, 32 ≤ c.toNat

theorem clean_append {a c : Bytes} (ha : Clean a) (hc : Clean c) : Clean (a ++ c) := List.forall_mem_append.2 ⟨ha, hc⟩
theorem noC0_append {a c : Bytes} (ha : NoC0 a) (hc : NoC0 c) : NoC0 (a ++ c) := List.forall_mem_append.2 ⟨ha, hc⟩
theorem clean_noC0 {a : Bytes} (h : Clean a) : NoC0 a := fun c hc => (h c hc).1
theorem noC0_nil : NoC0 [] := fun _ hc => nomatch hc
theorem noC0_cons {c : UInt8} {bs : Bytes} (hc : 32 ≤ c.toNat) (h : NoC0 bs) : NoC0 (c :: bs) := List.forall_mem_cons.2 ⟨hc, h⟩
theorem noC0_single {c : UInt8} (hc : 32 ≤ c.toNat) : NoC0 [c] := noC0_cons hc noC0_nil
theorem noC0_append_iff {a b : Bytes} : NoC0 (a ++ b) ↔ NoC0 a ∧ NoC0 b := List.forall_mem_append

theorem hex_clean (n : Nat) : Clean (hex2 n) ∧ Clean (hex4 n) ∧ Clean (hex8 n) := hex_forall (by decide) n

theorem hex_plain (n : Nat) :
    (∀ c ∈ hex2 n, c ≠ 34 ∧ c ≠ 92) ∧ (∀ c ∈ hex4 n, c ≠ 34 ∧ c ≠ 92) ∧ (∀ c ∈ hex8 n, c ≠ 34 ∧ c ≠ 92) :=
  hex_forall (by decide) n

/-- `isPrint` calls no C0 control character and not DEL printable: what the cleanliness of Go-quoting rests on -/
def PrintSafe (isPrint : Nat → Bool) : Prop := ∀ r, isPrint r = true → 32 ≤ r ∧ r ≠ 127

theorem isPrintTable_safe : PrintSafe isPrintTable := by
  intro r h
  unfold isPrintTable at h
  rw [Bool.and_eq_true, Bool.and_eq_true] at h
  have h2 : (r != 127) = true := h.1.2
  exact ⟨of_decide_eq_true h.1.1, fun e => by subst e; exact absurd h2 (by decide)⟩

/-- the one-letter escapes of control characters: rune, letter -/
def shortEscapes : List (Nat × UInt8) := [(7, 97), (8, 98), (12, 102), (10, 110), (13, 114), (9, 116), (11, 118)]

/-- What `escapeRune` writes, by cases: a property of all six shapes is a property of its output. `u` covers both
    `\u` branches: the rune itself, or U+FFFD for an invalid one. -/
theorem escapeRune_cases (isPrint : Nat → Bool) (r : Nat) {P : Bytes → Prop}
    (quote : r = 34 ∨ r = 92 → P [92, r.toUInt8])
    (raw : isPrint r = true → r ≠ 34 → r ≠ 92 → P (encodeRune r))
    (short : ∀ c, (r, c) ∈ shortEscapes → P [92, c])
    (x : r < 32 ∨ r = 127 → P ([92, 120] ++ hex2 r))
    (u : ∀ v, v < 0x10000 → (if validRune r = true then v = r else v = runeError) → P ([92, 117] ++ hex4 v))
    (U : validRune r = true → 0x10000 ≤ r → P ([92, 85] ++ hex8 r)) : P (escapeRune isPrint r) := by
  fun_cases escapeRune isPrint r
  case case1 h => exact quote (by simpa using h)
  case case2 h hp => rw [Bool.or_eq_true, beq_iff_eq, beq_iff_eq, not_or] at h; exact raw hp h.1 h.2
  case case3 h | case4 h | case5 h | case6 h | case7 h | case8 h | case9 h => cases eq_of_beq h; exact short _ (by decide)
  case case10 h => exact x (by simpa using h)
  case case11 h => rw [Bool.not_eq_true'] at h; exact u _ (by decide) (by rw [h]; exact rfl)
  case case12 h h' => rw [Bool.not_eq_true', Bool.not_eq_false] at h; exact u _ h' (by rw [h]; exact rfl)
  case case13 h h' => rw [Bool.not_eq_true', Bool.not_eq_false] at h; exact U h (Nat.le_of_not_lt h')

theorem clean_encodeRune {r : Nat} (h : 32 ≤ r ∧ r ≠ 127) : Clean (encodeRune r) := fun c hc =>
  (encodeRune_byte r c hc).elim (fun e => e ▸ h) fun hc => ⟨Nat.le_trans (by decide) hc, fun e => absurd (e ▸ hc) (by decide)⟩

theorem clean_escape {c : UInt8} (h : 32 ≤ c.toNat ∧ c.toNat ≠ 127) : Clean [92, c] :=
  List.forall_mem_cons.2 ⟨by decide, List.forall_mem_cons.2 ⟨h, nofun⟩⟩

theorem escapeRune_clean (isPrint : Nat → Bool) (hp : PrintSafe isPrint) (r : Nat) : Clean (escapeRune isPrint r) := by
  refine escapeRune_cases isPrint r ?_ (fun h _ _ => clean_encodeRune (hp r h)) ?_
    (fun _ => clean_append (clean_escape (by decide)) (hex_clean r).1)
    (fun v _ _ => clean_append (clean_escape (by decide)) (hex_clean v).2.1)
    (fun _ _ => clean_append (clean_escape (by decide)) (hex_clean r).2.2)
  · rintro (rfl | rfl) <;> exact clean_escape (by decide)
  · have : ∀ p ∈ shortEscapes, 32 ≤ p.2.toNat ∧ p.2.toNat ≠ 127 := by decide
    exact fun c hc => clean_escape (this _ hc)

/-- what holds of every piece `quoteBody` writes, of nothing, and of `a ++ b` with `a` and `b`, holds of its output -/
theorem quoteBody_pieces (isPrint : Nat → Bool) {P : Bytes → Prop} (nil : P []) (app : ∀ {a b}, P a → P b → P (a ++ b))
    (esc : ∀ r, P (escapeRune isPrint r)) (bad : ∀ b : UInt8, P ([92, 120] ++ hex2 b.toNat)) (fuel : Nat) (s : Bytes) :
    P (quoteBody isPrint fuel s) := by
  induction fuel, s using quoteBody.induct_unfolding isPrint with
  | case1 | case2 => exact nil
  | case3 _ _ _ _ ih | case5 _ _ _ _ _ _ _ _ ih => exact app (esc _) ih
  | case4 _ _ _ _ _ _ _ _ ih => exact app (bad _) ih

theorem quoteBody_clean (isPrint : Nat → Bool) (hp : PrintSafe isPrint) (fuel : Nat) (s : Bytes) : Clean (quoteBody isPrint fuel s) :=
  quoteBody_pieces isPrint nofun clean_append (escapeRune_clean isPrint hp)
    (fun _ => clean_append (clean_escape (by decide)) (hex_clean _).1) fuel s

/-- Go-syntax quoting never emits a control byte (no CR / LF / ESC …) nor DEL, whatever the input bytes. -/
theorem goQuote_clean (isPrint : Nat → Bool) (hp : PrintSafe isPrint) (s : Bytes) : Clean (goQuote isPrint s) :=
  List.forall_mem_cons.2 ⟨by decide, clean_append (quoteBody_clean isPrint hp _ s) (by unfold Clean; decide)⟩

def isHexB (c : UInt8) : Bool := (48 ≤ c && c ≤ 57) || (97 ≤ c && c ≤ 102) || (65 ≤ c && c ≤ 70)

/-- the inside of a JSON string (RFC 8259 §7), on bytes: unescaped bytes are ≥ 0x20 and neither `"` nor
    `\`; an escape is `\"  \\  \/  \b  \f  \n  \r  \t` or `\u` + four hex digits -/
def jsonBodyOK : Bytes → Bool
  | [] => true
  | c :: rest =>
    if c == 92 then
      match rest with
      | 117 :: a :: b :: cc :: d :: rest' => isHexB a && isHexB b && isHexB cc && isHexB d && jsonBodyOK rest'
      | e :: rest' => (e == 34 || e == 92 || e == 47 || e == 98 || e == 102 || e == 110 || e == 114 || e == 116) && jsonBodyOK rest'
      | [] => false
    else (decide (32 ≤ c) && c != 34) && jsonBodyOK rest

theorem hexChar_isHex (n : Nat) : isHexB (hexChar n) = true := hexChar_forall (p := (isHexB · = true)) (by decide) n

theorem jsonBodyOK_cons_plain (c : UInt8) (rest : Bytes) (h : 32 ≤ c ∧ c ≠ 34 ∧ c ≠ 92) : jsonBodyOK (c :: rest) = jsonBodyOK rest := by
  rw [jsonBodyOK.eq_def]
  simp only [if_neg (mt beq_iff_eq.1 h.2.2), decide_eq_true h.1, bne_iff_ne.2 h.2.1, Bool.and_self, Bool.true_and]

theorem jsonBodyOK_append_plain (p rest : Bytes) (h : ∀ c ∈ p, 32 ≤ c ∧ c ≠ 34 ∧ c ≠ 92) :
    jsonBodyOK (p ++ rest) = jsonBodyOK rest := by
  induction p with
  | nil => rfl
  | cons c t ih =>
    obtain ⟨hc, ht⟩ := List.forall_mem_cons.1 h
    rw [List.cons_append, jsonBodyOK_cons_plain c _ hc]
    exact ih ht

theorem jsonBodyOK_u4 (v : Nat) (rest : Bytes) : jsonBodyOK ([92, 117] ++ hex4 v ++ rest) = jsonBodyOK rest := by
  show jsonBodyOK (92 :: 117 :: hexChar _ :: hexChar _ :: hexChar _ :: hexChar _ :: rest) = _
  rw [jsonBodyOK]
  simp only [beq_self_eq_true, if_true, hexChar_isHex, Bool.true_and]

theorem high_plain {c : UInt8} (h : 128 ≤ c.toNat) : 32 ≤ c ∧ c ≠ 34 ∧ c ≠ 92 :=
  ⟨UInt8.le_iff_toNat_le.2 (Nat.le_trans (by decide) h), fun e => absurd (e ▸ h) (by decide), fun e => absurd (e ▸ h) (by decide)⟩

theorem jsonSafe_iff (b : UInt8) : jsonSafe b = true ↔ 32 ≤ b ∧ b ≠ 34 ∧ b ≠ 92 := by
  simp only [jsonSafe, Bool.and_eq_true, decide_eq_true_eq, bne_iff_ne, ne_eq, and_assoc]

/-- the two-byte escapes of the JSON escaper: byte, letter -/
def jsonShortEscapes : List (UInt8 × UInt8) := [(34, 34), (92, 92), (10, 110), (13, 114), (9, 116)]

theorem jsonEscapeByte_cases (b : UInt8) {P : Bytes → Prop} (short : ∀ c, (b, c) ∈ jsonShortEscapes → P [92, c])
    (u : P ([92, 117] ++ hex4 b.toNat)) : P (jsonEscapeByte b) := by
  fun_cases jsonEscapeByte b
  case case1 h => rcases Bool.or_eq_true_iff.1 h with h | h <;> cases eq_of_beq h <;> exact short _ (by decide)
  case case2 h | case3 h | case4 h => cases eq_of_beq h; exact short _ (by decide)
  case case5 => rw [hex4_byte b.toNat_lt] at u; exact u

/-- The output of `jsonEscape` is a concatenation of pieces, one per character: a property of `[]`, `++` and every
    piece is a property of the output. `raw` is a multi-byte sequence copied as it is (all bytes ≥ 0x80). -/
theorem jsonEscape_pieces {P : Bytes → Prop} (nil : P []) (app : ∀ {a b}, P a → P b → P (a ++ b))
    (safe : ∀ b, jsonSafe b = true → P [b]) (esc : ∀ b, P (jsonEscapeByte b)) (u : ∀ v, P ([92, 117] ++ hex4 v))
    (raw : ∀ p : Bytes, (∀ c ∈ p, 128 ≤ c.toNat) → P p) (fuel : Nat) (s : Bytes) : P (jsonEscape fuel s) := by
  induction fuel, s using jsonEscape.induct_unfolding with
  | case1 | case2 => exact nil
  | case3 _ b0 _ _ ih => exact app (by split; exact safe _ ‹_›; exact esc _) ih
  | case4 _ _ _ _ _ _ _ _ ih => exact app (u 0xFFFD) ih
  | case5 _ _ _ _ r _ _ _ hls ih =>
    refine app ?_ ih
    rcases Bool.or_eq_true_iff.1 hls with h | h <;> cases eq_of_beq h
    · exact u 0x2028
    · exact u 0x2029
  | case6 _ b0 t hb r w hd he _ ih =>
    refine app ?_ ih
    obtain ⟨h0, _, rfl, t', e⟩ := decodeRune_high hb hd fun h => he (by rw [h.1, h.2]; rfl)
    rw [e, List.take_left]; exact raw _ (encodeRune_high r h0)

theorem jsonEscapeByte_ok (b0 : UInt8) (rest : Bytes) : jsonBodyOK (jsonEscapeByte b0 ++ rest) = jsonBodyOK rest := by
  refine jsonEscapeByte_cases b0 (P := fun p => jsonBodyOK (p ++ rest) = jsonBodyOK rest) ?_ (jsonBodyOK_u4 _ rest)
  have : ∀ p ∈ jsonShortEscapes, jsonBodyOK (92 :: p.2 :: rest) = jsonBodyOK rest := by
    simp only [jsonShortEscapes, List.forall_mem_cons]; exact ⟨rfl, rfl, rfl, rfl, rfl, nofun⟩
  exact fun c hc => this _ hc

/-- (JSON) whatever bytes go in, what `appendEscapedJSONString` puts between the quotes is a well-formed
    JSON string body: no unescaped quote, no raw control byte, only legal escapes. -/
theorem jsonEscape_ok (fuel : Nat) : ∀ (s rest : Bytes), jsonBodyOK (jsonEscape fuel s ++ rest) = jsonBodyOK rest :=
  jsonEscape_pieces (P := fun p => ∀ rest, jsonBodyOK (p ++ rest) = jsonBodyOK rest) (fun _ => rfl)
    (fun ha hb rest => by rw [List.append_assoc, ha, hb]) (fun b h rest => jsonBodyOK_cons_plain b rest ((jsonSafe_iff b).1 h)) jsonEscapeByte_ok
    jsonBodyOK_u4 (fun p h rest => jsonBodyOK_append_plain p rest fun c hc => high_plain (h c hc)) fuel

theorem jsonQuote_wellformed (s : Bytes) :
    ∃ body, jsonQuote s = 34 :: body ++ [34] ∧ jsonBodyOK body = true :=
  ⟨jsonEscape s.length s, rfl, by rw [← List.append_nil (jsonEscape _ _), jsonEscape_ok]; rfl⟩

theorem jsonEscape_noC0 (fuel : Nat) (s : Bytes) : NoC0 (jsonEscape fuel s) := by
  have u (v : Nat) : NoC0 ([92, 117] ++ hex4 v) := noC0_append (by unfold NoC0; decide) (clean_noC0 (hex_clean v).2.1)
  refine jsonEscape_pieces nofun noC0_append ?_ ?_ u (fun p h c hc => Nat.le_trans (by decide) (h c hc)) fuel s
  · exact fun b h c hc => List.mem_singleton.1 hc ▸ UInt8.le_iff_toNat_le.1 ((jsonSafe_iff b).1 h).1
  · refine fun b => jsonEscapeByte_cases b ?_ (u _)
    have : ∀ p ∈ jsonShortEscapes, NoC0 [92, p.2] := by unfold NoC0; decide
    exact fun c hc => this _ hc

theorem jsonQuote_noC0 (s : Bytes) : NoC0 (jsonQuote s) :=
  List.forall_mem_cons.2 ⟨by decide, noC0_append (jsonEscape_noC0 _ s) (by unfold NoC0; decide)⟩

end Logg.Lemmas
