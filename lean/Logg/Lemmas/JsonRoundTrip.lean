/-
  Round trip of the JSON string quoting: encoding/json's reading of a string literal (model
  jsonUnquote) applied to what appendEscapedJSONString wrote (model jsonQuote) gives the value back
  byte for byte, for every valid UTF-8 string.
-/
import Logg.Lemmas.QuoteRoundTrip
namespace Logg
open Logg.Lemmas

theorem jsonUnquoteChar_safe (c : UInt8) (rest : Bytes) (h0 : c < 0x80) (hs : jsonSafe c = true) :
    jsonUnquoteChar ([c] ++ rest) = some ([c], rest) := by
  obtain ⟨h1, h2, h3⟩ := (jsonSafe_iff c).1 hs
  have n1 : ¬ (c == 34 || decide (c < 0x20)) = true := by
    rw [Bool.or_eq_true, beq_iff_eq, decide_eq_true_eq]; exact fun h => h.elim h2 (UInt8.not_lt.2 h1)
  exact (if_neg n1).trans ((if_neg (mt beq_iff_eq.1 h3)).trans (if_pos h0))

theorem jsonUnquoteChar_u (v : Nat) (rest : Bytes) (hv : v < 0x10000) (hs : v < 0xD800 ∨ 0xE000 ≤ v) :
    jsonUnquoteChar ([92, 117] ++ hex4 v ++ rest) = some (encodeRune v, rest) := by
  have hl : (hex4 v).length = 4 := rfl
  have h1 : isHighSurrogate v = false := by simp only [isHighSurrogate, Bool.and_eq_false_iff, decide_eq_false_iff_not]; omega
  have h2 : isLowSurrogate v = false := by simp only [isLowSurrogate, Bool.and_eq_false_iff, decide_eq_false_iff_not]; omega
  simp [jsonUnquoteChar, List.take_left' hl, List.drop_left' hl, hl, hexValue_hex4, Nat.mod_eq_of_lt hv, h1, h2]

theorem jsonUnquoteChar_escapeByte (c : UInt8) (rest : Bytes) (h0 : c < 0x80) :
    jsonUnquoteChar (jsonEscapeByte c ++ rest) = some ([c], rest) := by
  refine jsonEscapeByte_cases c (P := fun e => jsonUnquoteChar (e ++ rest) = some ([c], rest)) ?_ ?_
  · have : ∀ p ∈ jsonShortEscapes, jsonUnquoteChar (92 :: p.2 :: rest) = some ([p.1], rest) := by
      simp only [jsonShortEscapes, List.forall_mem_cons]; exact ⟨rfl, rfl, rfl, rfl, rfl, nofun⟩
    exact fun _ hc => this _ hc
  · have hr := UInt8.lt_iff_toNat_lt.1 h0
    have := jsonUnquoteChar_u c.toNat rest (Nat.lt_trans hr (by decide)) (Or.inl (Nat.lt_trans hr (by decide)))
    rwa [encodeRune_ascii _ hr, Nat.toUInt8_eq, UInt8.ofNat_toNat] at this

theorem jsonUnquoteChar_high {b0 : UInt8} (t : Bytes) (hb : 128 ≤ b0.toNat) :
    jsonUnquoteChar (b0 :: t) =
      if ((decodeRune (b0 :: t)).1 == runeError && (decodeRune (b0 :: t)).2 == 1) = true then some (encodeRune runeError, t)
      else some ((b0 :: t).take (decodeRune (b0 :: t)).2, (b0 :: t).drop (decodeRune (b0 :: t)).2) := by
  have n1 : ¬ (b0 == 34 || decide (b0 < 0x20)) = true := by
    rw [Bool.or_eq_true, beq_iff_eq, decide_eq_true_eq]
    exact fun h => h.elim (fun e => absurd (e ▸ hb) (by decide)) fun h =>
      absurd (Nat.le_trans hb (Nat.le_of_lt (UInt8.lt_iff_toNat_lt.1 h))) (by decide)
  exact (if_neg n1).trans ((if_neg fun h => absurd (beq_iff_eq.1 h ▸ hb) (by decide)).trans
    (if_neg fun h => absurd (Nat.lt_of_le_of_lt hb (UInt8.lt_iff_toNat_lt.1 h)) (by decide)))

theorem jsonUnquoteChar_raw (r : Nat) (h0 : 0x80 ≤ r) (hv : validRune r = true) (rest : Bytes) :
    jsonUnquoteChar (encodeRune r ++ rest) = some (encodeRune r, rest) := by
  obtain ⟨b0, cs, he⟩ := List.exists_cons_of_ne_nil (encodeRune_ne_nil r)
  have hb := encodeRune_high r h0 b0 (he ▸ List.mem_cons_self)
  have hd := decode_encode r h0 hv rest
  have h2 := two_le_length_encodeRune h0 hv
  rw [he] at hd h2 ⊢
  have hw : ¬ ((r == runeError && (b0 :: cs).length == 1) = true) := by
    rw [Bool.and_eq_true, beq_iff_eq, beq_iff_eq]; exact fun h => absurd (h.2 ▸ h2) (by decide)
  rw [List.cons_append, jsonUnquoteChar_high _ hb, ← List.cons_append, hd, if_neg hw, List.take_left, List.drop_left]

theorem jsonUnquoteChar_ls (r : Nat) (hr : r = 0x2028 ∨ r = 0x2029) (rest : Bytes) :
    jsonUnquoteChar (([92, 117, 50, 48, 50] : Bytes) ++ [hexChar r] ++ rest) = some (encodeRune r, rest) := by
  rcases hr with rfl | rfl
  · exact jsonUnquoteChar_u 0x2028 rest (by decide) (by decide)
  · exact jsonUnquoteChar_u 0x2029 rest (by decide) (by decide)

theorem jsonUnquoteBody_step {E Q out x : Bytes} (hE : E ≠ []) (h : jsonUnquoteChar (E ++ Q) = some (out, Q))
    (ih : ∀ f, Q.length ≤ f → jsonUnquoteBody f Q = some x) :
    ∀ f, (E ++ Q).length ≤ f → jsonUnquoteBody f (E ++ Q) = some (out ++ x) := by
  intro f hf
  obtain ⟨e, es, rfl⟩ := List.exists_cons_of_ne_nil hE
  cases f with
  | zero => exact absurd hf (by simp)
  | succ f =>
    have hq : Q.length ≤ f := by rw [List.cons_append, List.length_cons, List.length_append] at hf; omega
    simp only [List.cons_append] at h ⊢
    simp only [jsonUnquoteBody, h, ih f hq, Option.map_some]

theorem jsonUnquoteBody_nil (f : Nat) : jsonUnquoteBody f [] = some [] := by cases f <;> rfl

theorem validUtf8_cons {fuel r w : Nat} {b0 : UInt8} {t : Bytes} (hd : decodeRune (b0 :: t) = (r, w))
    (h : validUtf8 (fuel + 1) (b0 :: t) = true) :
    ¬ (r == runeError && w == 1) = true ∧ validUtf8 fuel ((b0 :: t).drop w) = true := by
  simp only [validUtf8, hd] at h
  split at h
  · exact absurd h (by decide)
  · exact ⟨‹_›, h⟩

theorem jsonUnquoteBody_jsonEscape (fuel : Nat) (s : Bytes) : s.length ≤ fuel → validUtf8 fuel s = true →
    ∀ f, (jsonEscape fuel s).length ≤ f → jsonUnquoteBody f (jsonEscape fuel s) = some s := by
  induction fuel, s using jsonEscape.induct_unfolding with
  | case1 s => intro hs _ f _; rw [List.eq_nil_of_length_eq_zero (Nat.le_zero.1 hs)]; exact jsonUnquoteBody_nil f
  | case2 => exact fun _ _ f _ => jsonUnquoteBody_nil f
  | case3 fuel b0 t hb ih =>
    intro hs hval
    have ih := ih (Nat.le_of_succ_le_succ hs) (validUtf8_cons (decodeRune_ascii b0 t hb) hval).2
    split
    · exact jsonUnquoteBody_step (E := [b0]) nofun (jsonUnquoteChar_safe b0 _ hb ‹_›) ih
    · exact jsonUnquoteBody_step (jsonEscapeByte_cases b0 (P := (· ≠ [])) (fun _ _ => nofun) nofun)
        (jsonUnquoteChar_escapeByte b0 _ hb) ih
  | case4 fuel b0 t hb r w hd he ih => exact fun _ hval => absurd he (validUtf8_cons hd hval).1
  | case5 fuel b0 t hb r w hd he hls ih =>
    intro hs hval
    obtain ⟨h0, hv, rfl, t', e⟩ := decodeRune_high hb hd fun h => he (by rw [h.1, h.2]; rfl)
    have ih := ih (by rw [e, List.drop_left]; rw [e] at hs; exact encodeRune_tail_le h0 hv hs) (validUtf8_cons hd hval).2
    rw [e, List.drop_left] at ih ⊢
    exact jsonUnquoteBody_step (E := [92, 117, 50, 48, 50] ++ [hexChar r]) nofun
      (jsonUnquoteChar_ls r (by simpa using hls) _) ih
  | case6 fuel b0 t hb r w hd he hls ih =>
    intro hs hval
    obtain ⟨h0, hv, rfl, t', e⟩ := decodeRune_high hb hd fun h => he (by rw [h.1, h.2]; rfl)
    have ih := ih (by rw [e, List.drop_left]; rw [e] at hs; exact encodeRune_tail_le h0 hv hs) (validUtf8_cons hd hval).2
    rw [e, List.drop_left] at ih ⊢
    rw [List.take_left]
    exact jsonUnquoteBody_step (encodeRune_ne_nil r) (jsonUnquoteChar_raw r h0 hv _) ih

/-- **Round trip of the JSON string quoting**: decoding the string literal the encoder writes
    gives the value back byte for byte whenever it is valid UTF-8. -/
theorem jsonUnquote_jsonQuote (s : Bytes) (hv : isValidUtf8 s = true) : jsonUnquote (jsonQuote s) = some s := by
  have hrt := jsonUnquoteBody_jsonEscape s.length s (Nat.le_refl _) hv _ (Nat.le_refl _)
  unfold jsonQuote
  generalize jsonEscape s.length s = body at hrt ⊢
  simp [jsonUnquote, getLast?_quoted, hrt]
end Logg
