/-
  The logfmt reader over what the encoder writes: quoted values are single
  tokens whatever they contain; a row of space-led tokens splits back into exactly those tokens.
-/
import Logg.Model.Logfmt
import Logg.Lemmas.QuoteClean

namespace Logg
open Logg.Lemmas

/-- scanning x from state s meets no space outside quotes; the state it ends in -/
def scanTo : QSt → Bytes → Option QSt
  | s, [] => some s
  | s, c :: rest => if s = .out ∧ c = 32 then none else scanTo (qStep s c) rest

theorem scanTo_append (s : QSt) (a b : Bytes) : scanTo s (a ++ b) = (scanTo s a).bind (fun s' => scanTo s' b) := by
  induction s, a using scanTo.induct_unfolding with
  | case1 => rfl
  | case2 s c a hc => rw [List.cons_append, scanTo, if_pos hc]; rfl
  | case3 s c a hc ih => rw [List.cons_append, scanTo, if_neg hc]; exact ih

theorem tokensFrom_scan {s s' : QSt} (cur x rest : Bytes) (h : scanTo s x = some s') :
    tokensFrom s cur (x ++ rest) = tokensFrom s' (cur ++ x) rest := by
  induction s, x using scanTo.induct_unfolding generalizing cur with
  | case1 s => cases h; rw [List.append_nil]; rfl
  | case2 => cases h
  | case3 s c x hc ih => rw [List.cons_append, tokensFrom, if_neg hc, ih _ h, List.append_assoc]; rfl

theorem scanTo_plain {s : QSt} {x : Bytes} (h : ∀ c ∈ x, ¬ (s = .out ∧ c = 32) ∧ qStep s c = s) : scanTo s x = some s := by
  induction x with
  | nil => rfl
  | cons c x ih =>
    obtain ⟨⟨hc, hq⟩, hx⟩ := List.forall_mem_cons.1 h
    rw [scanTo, if_neg hc, hq]; exact ih hx

/-- a piece that reads as (part of) one token from outside quotes back to outside quotes -/
def Bal (x : Bytes) : Prop := scanTo .out x = some .out
/-- a piece that stays inside quotes -/
def Inq (x : Bytes) : Prop := scanTo .inq x = some .inq

theorem bal_nil : Bal [] := rfl
theorem inq_nil : Inq [] := rfl

theorem bal_append {a b : Bytes} (ha : Bal a) (hb : Bal b) : Bal (a ++ b) := by
  unfold Bal at *; rw [scanTo_append, ha]; exact hb

theorem inq_append {a b : Bytes} (ha : Inq a) (hb : Inq b) : Inq (a ++ b) := by
  unfold Inq at *; rw [scanTo_append, ha]; exact hb

theorem bal_plain (x : Bytes) (h : ∀ c ∈ x, c ≠ 32 ∧ c ≠ 34) : Bal x :=
  scanTo_plain fun c hc => ⟨fun hh => (h c hc).1 hh.2, if_neg (mt beq_iff_eq.1 (h c hc).2)⟩

theorem inq_plain (x : Bytes) (h : ∀ c ∈ x, c ≠ 34 ∧ c ≠ 92) : Inq x :=
  scanTo_plain fun c hc =>
    ⟨fun hh => QSt.noConfusion hh.1, (if_neg (mt beq_iff_eq.1 (h c hc).2)).trans (if_neg (mt beq_iff_eq.1 (h c hc).1))⟩

theorem inq_escape (c : UInt8) : Inq [92, c] := rfl

theorem bal_quoted (body : Bytes) (h : Inq body) : Bal (34 :: (body ++ [34])) := by
  show scanTo .inq (body ++ [34]) = some .out
  rw [scanTo_append, h]; rfl

theorem inq_encodeRune {r : Nat} (h34 : r ≠ 34) (h92 : r ≠ 92) : Inq (encodeRune r) :=
  inq_plain _ fun c hc => (encodeRune_byte r c hc).elim
    (fun e => ⟨fun h => h34 (e ▸ congrArg UInt8.toNat h), fun h => h92 (e ▸ congrArg UInt8.toNat h)⟩) fun h => (high_plain h).2

theorem hex_inq (n : Nat) : Inq (hex2 n) ∧ Inq (hex4 n) ∧ Inq (hex8 n) :=
  have h := hex_plain n
  ⟨inq_plain _ h.1, inq_plain _ h.2.1, inq_plain _ h.2.2⟩

theorem escapeRune_inq (isPrint : Nat → Bool) (r : Nat) : Inq (escapeRune isPrint r) :=
  escapeRune_cases isPrint r (fun _ => inq_escape _) (fun _ => inq_encodeRune) (fun _ _ => inq_escape _)
    (fun _ => inq_append (inq_escape _) (hex_inq r).1) (fun v _ _ => inq_append (inq_escape _) (hex_inq v).2.1)
    (fun _ _ => inq_append (inq_escape _) (hex_inq r).2.2)

theorem quoteBody_inq (isPrint : Nat → Bool) (fuel : Nat) (s : Bytes) : Inq (quoteBody isPrint fuel s) :=
  quoteBody_pieces isPrint inq_nil inq_append (escapeRune_inq isPrint) (fun _ => inq_append (inq_escape _) (hex_inq _).1) fuel s

theorem goQuote_bal (isPrint : Nat → Bool) (s : Bytes) : Bal (goQuote isPrint s) :=
  bal_quoted _ (quoteBody_inq isPrint _ s)

theorem goQuote_ne_nil (isPrint : Nat → Bool) (s : Bytes) : goQuote isPrint s ≠ [] := by simp [goQuote]

/-- `Spaced x T`: x is a row of pieces each led by one space — a token of T, or nothing — in order -/
inductive Spaced : Bytes → List Bytes → Prop where
  | nil : Spaced [] []
  | sp {x T} : Spaced x T → Spaced (32 :: x) T
  | tok {t x T} : Bal t → t ≠ [] → Spaced x T → Spaced (32 :: (t ++ x)) (t :: T)

theorem Spaced.append {x y : Bytes} {T U : List Bytes} (hx : Spaced x T) (hy : Spaced y U) : Spaced (x ++ y) (T ++ U) := by
  induction hx with
  | nil => exact hy
  | sp _ ih => exact Spaced.sp ih
  | tok hb hne _ ih => rw [List.cons_append, List.append_assoc]; exact Spaced.tok hb hne ih

theorem Spaced.head {x : Bytes} {T : List Bytes} (h : Spaced x T) : x = [] ∨ ∃ r, x = 32 :: r := by
  cases h with
  | nil => left; rfl
  | sp _ => right; exact ⟨_, rfl⟩
  | tok _ _ _ => right; exact ⟨_, rfl⟩

theorem emitTok_ne {t : Bytes} (h : t ≠ []) : emitTok t = [t] := by
  cases t with
  | nil => exact absurd rfl h
  | cons _ _ => rfl

/-- the reader splits a row back into its tokens (the token being read when the row starts is closed
    by the row's first space) -/
theorem tokensFrom_spaced {x : Bytes} {T : List Bytes} (h : Spaced x T) (cur : Bytes) :
    tokensFrom .out cur x = emitTok cur ++ T := by
  induction h generalizing cur with
  | nil => simp [tokensFrom]
  | sp _ ih =>
    simp only [tokensFrom, and_self, ↓reduceIte, ih [], emitTok, List.isEmpty_nil, List.nil_append]
  | @tok t x T hb hne hx ih =>
    simp only [tokensFrom, and_self, ↓reduceIte]
    rw [tokensFrom_scan [] t x hb, List.nil_append, ih t, emitTok_ne hne]
    rfl

theorem splitPair_kv (k v : Bytes) (hk : ∀ c ∈ k, c ≠ 61) : splitPair (k ++ 61 :: v) = some (k, v) := by
  have hidx : (k ++ 61 :: v).findIdx? (· == 61) = some k.length := by
    rw [List.findIdx?_append, List.findIdx?_eq_none_iff.2 fun c hc => beq_eq_false_iff_ne.2 (hk c hc), List.findIdx?_cons]
    simp
  have hd : (k ++ 61 :: v).drop (k.length + 1) = v := by
    rw [← List.drop_drop, List.drop_left' rfl]; rfl
  simp only [splitPair, hidx, List.take_left' rfl, hd]

end Logg
