/-
  The parser reads back what the formatter wrote (C20). A text that the loop of `ParseDuration` reads whatever follows
  it, adding `x`, is a `Row`: rows are closed under concatenation, and a printed field (number, optional fraction, unit)
  is one by a single round. Then what the formatter writes, and the same parser over a table that lacks one unit.
-/
import Logg.Model.Duration
import Logg.Lemmas.Digits

namespace Logg

/-- value of a digit list read most-significant first on top of x -/
def dval (ds : Bytes) (x : Nat) : Nat := ds.foldl (fun x c => x * 10 + (c.toNat - 48)) x

theorem dval_nil (x : Nat) : dval [] x = x := rfl
theorem dval_cons (c : UInt8) (ds : Bytes) (x : Nat) : dval (c :: ds) x = dval ds (x * 10 + (c.toNat - 48)) := by
  simp only [dval, List.foldl_cons]
theorem dval_append (a b : Bytes) (x : Nat) : dval (a ++ b) x = dval b (dval a x) := List.foldl_append ..

theorem dval_ge (ds : Bytes) (x : Nat) : x ≤ dval ds x := by
  induction ds generalizing x with
  | nil => exact Nat.le_refl _
  | cons c ds ih => exact Nat.le_trans (Nat.le_trans (Nat.le_mul_of_pos_right x (by decide)) (Nat.le_add_right ..)) (ih _)

/-- the digit test as `unitSpan` and `roundScan` write it; the scanners' `c < 48 || c > 57` is its negation (`notDig_eq`) -/
def isDig (c : UInt8) : Bool := 48 ≤ c && c ≤ 57

def numStart (c : UInt8) : Bool := c == 46 || isDig c

theorem notDig_eq (c : UInt8) : (c < 48 || c > 57) = !isDig c := by
  rw [Bool.eq_iff_iff]
  simp only [isDig, Bool.or_eq_true, decide_eq_true_eq, Bool.not_eq_true', Bool.and_eq_false_iff, decide_eq_false_iff_not,
    UInt8.not_le, gt_iff_lt]

theorem isDig_of_toNat {c : UInt8} (h : 48 ≤ c.toNat ∧ c.toNat ≤ 57) : isDig c = true := by
  simp only [isDig, Bool.and_eq_true, decide_eq_true_eq, UInt8.le_iff_toNat_le]; exact h

def AllDig (ds : Bytes) : Prop := ∀ c ∈ ds, isDig c = true

/-- what follows a number: nothing, or a byte that is not a digit -/
def Stops : Bytes → Prop
  | [] => True
  | c :: _ => isDig c = false

theorem two63_val : two63 = 9223372036854775808 := by decide

theorem leadingInt_digits (ds rest : Bytes) (x : Nat) (hd : AllDig ds) (hb : dval ds x ≤ two63) (hr : Stops rest) :
    leadingInt (ds ++ rest) x = some (dval ds x, rest) := by
  induction ds generalizing x with
  | nil =>
    cases rest with
    | nil => rfl
    | cons c r =>
      simp only [List.nil_append, leadingInt, notDig_eq, show isDig c = false from hr, Bool.not_false, ↓reduceIte, dval_nil]
  | cons c ds ih =>
    rw [dval_cons] at hb
    have h2 : x * 10 + (c.toNat - 48) ≤ two63 := Nat.le_trans (dval_ge ..) hb
    have h1 : x ≤ two63 / 10 := (Nat.le_div_iff_mul_le (by decide)).2 (Nat.le_trans (Nat.le_add_right ..) h2)
    simp only [List.cons_append, leadingInt, notDig_eq, hd c (List.mem_cons_self ..), Bool.not_true, Nat.not_lt.2 h1,
      Nat.not_lt.2 h2, ↓reduceIte, Bool.false_eq_true, dval_cons]
    exact ih _ (fun c' hc' => hd c' (List.mem_cons_of_mem _ hc')) hb

/-- below 10^18 neither overflow guard of `leadingFraction` fires -/
theorem leadingFraction_digits (ds rest : Bytes) (x k : Nat) (hd : AllDig ds) (hb : dval ds x < 10 ^ 18) (hr : Stops rest) :
    leadingFraction (ds ++ rest) x k false = (dval ds x, k + ds.length, rest) := by
  induction ds generalizing x k with
  | nil =>
    cases rest with
    | nil => rfl
    | cons c r =>
      simp only [List.nil_append, leadingFraction, notDig_eq, show isDig c = false from hr, Bool.not_false, ↓reduceIte, dval_nil,
        List.length_nil, Nat.add_zero]
  | cons c ds ih =>
    rw [dval_cons] at hb
    have hlt : x * 10 + (c.toNat - 48) ≤ 10 ^ 18 := Nat.le_of_lt (Nat.lt_of_le_of_lt (dval_ge ..) hb)
    have h2 : x * 10 + (c.toNat - 48) ≤ two63 := Nat.le_trans hlt (by decide)
    have h1 : x ≤ (two63 - 1) / 10 :=
      (Nat.le_div_iff_mul_le (by decide)).2 (Nat.le_trans (Nat.le_add_right ..) (Nat.le_trans hlt (by decide)))
    simp only [List.cons_append, leadingFraction, notDig_eq, hd c (List.mem_cons_self ..), Bool.not_true, Nat.not_lt.2 h1,
      Nat.not_lt.2 h2, ↓reduceIte, Bool.false_eq_true, dval_cons, List.length_cons]
    rw [ih _ _ (fun c' hc' => hd c' (List.mem_cons_of_mem _ hc')) hb, Nat.add_assoc, Nat.add_comm 1]

theorem dval_snoc_digit (ds : Bytes) (x d : Nat) (h : d < 10) : dval (ds ++ [(48 + d).toUInt8]) x = dval ds x * 10 + d := by
  rw [dval_append, dval_cons, dval_nil, digit_toNat h, Nat.add_sub_cancel_left]

theorem isDig_digit (d : Nat) (h : d < 10) : isDig (48 + d).toUInt8 = true :=
  isDig_of_toNat (by rw [digit_toNat h]; omega)

theorem dval_decDigits (f v : Nat) (hv : v < 10 ^ f) : dval (decDigits f v) 0 = v := by
  induction f generalizing v with
  | zero => exact (Nat.lt_one_iff.mp hv).symm
  | succ f ih =>
    rw [decDigits]
    split
    · next h => exact (dval_snoc_digit [] 0 v h).trans (by rw [dval_nil, Nat.zero_mul, Nat.zero_add])
    · rw [dval_snoc_digit _ _ _ (Nat.mod_lt _ (by decide)), ih _ (by rw [Nat.pow_succ] at hv; omega), Nat.div_add_mod']

theorem fmtInt_allDig (v : Nat) : AllDig (fmtInt v) := fun c hc => isDig_of_toNat (decDigits_digit _ _ c hc)

theorem fmtInt_val (v : Nat) : dval (fmtInt v) 0 = v :=
  dval_decDigits _ _ (Nat.lt_trans (Nat.lt_succ_self v) (Nat.lt_pow_self (by decide)))

theorem fmtInt_head (v : Nat) : ∃ c t, fmtInt v = c :: t ∧ numStart c = true := by
  match hf : fmtInt v with
  | [] => exact absurd hf (decDigits_ne_nil v v)
  | c :: t => exact ⟨c, t, rfl, Bool.or_eq_true_iff.mpr (.inr (fmtInt_allDig v c (by rw [hf]; exact List.mem_cons_self ..)))⟩

theorem leadingInt_fmtInt (v : Nat) (rest : Bytes) (hv : v ≤ two63) (hr : Stops rest) :
    leadingInt (fmtInt v ++ rest) 0 = some (v, rest) := by
  rw [leadingInt_digits _ _ _ (fmtInt_allDig v) (by rw [fmtInt_val]; exact hv) hr, fmtInt_val]

theorem fracDigits_allDig (p v : Nat) (pr : Bool) : AllDig (fracDigits p v pr) := by
  induction p generalizing v pr with
  | zero => exact fun c hc => nomatch hc
  | succ p ih =>
    intro c hc
    rw [fracDigits, List.mem_append] at hc
    rcases hc with h | h
    · exact ih _ _ c h
    · split at h
      · rw [List.mem_singleton.mp h]; exact isDig_digit _ (Nat.mod_lt _ (by decide))
      · nomatch h

theorem fracDigits_length (p v : Nat) (pr : Bool) : (fracDigits p v pr).length ≤ p := by
  induction p generalizing v pr with
  | zero => exact Nat.le_refl 0
  | succ p ih =>
    rw [fracDigits, List.length_append]
    have := ih (v / 10) (pr || v % 10 != 0)
    split
    · exact Nat.succ_le_succ this
    · exact Nat.le_succ_of_le this

theorem mod_ten_pow_succ (v p : Nat) : v % 10 ^ (p + 1) = v / 10 % 10 ^ p * 10 + v % 10 := by
  rw [Nat.pow_succ, Nat.mul_comm, Nat.mod_mul, Nat.add_comm, Nat.mul_comm]

/-- the digits after the point, zeros stripped on the right (all `p` of them once one was printed), scaled back up,
    are the low `p` digits of `v` -/
theorem fracDigits_val (p v : Nat) (pr : Bool) :
    (pr = true → (fracDigits p v pr).length = p) ∧
      dval (fracDigits p v pr) 0 * 10 ^ (p - (fracDigits p v pr).length) = v % 10 ^ p := by
  induction p generalizing v pr with
  | zero => exact ⟨fun _ => rfl, by rw [Nat.pow_zero, Nat.mod_one]; rfl⟩
  | succ p ih =>
    rw [fracDigits, mod_ten_pow_succ]
    cases h : (pr || v % 10 != 0) with
    | true =>
      obtain ⟨hl, hv⟩ := ih (v / 10) true
      rw [hl rfl, Nat.sub_self, Nat.pow_zero, Nat.mul_one] at hv
      rw [if_pos rfl, List.length_append, hl rfl, dval_snoc_digit _ _ _ (Nat.mod_lt v (by decide)), hv]
      exact ⟨fun _ => rfl, by rw [List.length_singleton, Nat.sub_self, Nat.pow_zero, Nat.mul_one]⟩
    | false =>
      rw [Bool.or_eq_false_iff, bne_eq_false_iff_eq] at h
      obtain ⟨_, hv⟩ := ih (v / 10) false
      rw [if_neg Bool.false_ne_true, List.append_nil, Nat.succ_sub (fracDigits_length ..), Nat.pow_succ, ← Nat.mul_assoc, hv, h.2]
      exact ⟨fun e => Bool.noConfusion (h.1.symm.trans e), rfl⟩

theorem signSplit_neg (b : Bytes) : signSplit (45 :: b) = (true, b) := rfl

theorem signSplit_num (c : UInt8) (t : Bytes) (h : numStart c = true) : signSplit (c :: t) = (false, c :: t) := by
  unfold signSplit
  split
  · next e => injection e with e; subst e; exact nomatch h
  · next e => injection e with e; subst e; exact nomatch h
  · rfl

/-- (value, unit text, unit in ns) -/
abbrev Fld := Nat × Bytes × Nat

/-- what follows a unit: nothing, or the start of the next number -/
def Starts : Bytes → Prop
  | [] => True
  | c :: _ => numStart c = true

theorem starts_append {t rest : Bytes} (ht : Starts t) (hr : Starts rest) : Starts (t ++ rest) := by
  cases t with
  | nil => exact hr
  | cons _ _ => exact ht

theorem unitSpan_unit (u rest : Bytes) (hu : ∀ c ∈ u, numStart c = false) (hr : Starts rest) :
    unitSpan (u ++ rest) = (u, rest) := by
  induction u with
  | nil =>
    cases rest with
    | nil => rfl
    | cons c r => simp only [List.nil_append, unitSpan, show (c == 46 || (48 ≤ c && c ≤ 57)) = true from hr, ↓reduceIte]
  | cons c u ih =>
    simp only [List.cons_append, unitSpan, show (c == 46 || (48 ≤ c && c ≤ 57)) = false from hu c (List.mem_cons_self ..),
      Bool.false_eq_true, ↓reduceIte, ih fun c' hc' => hu c' (List.mem_cons_of_mem _ hc')]

/-- the fraction as `fmtFrac` writes it: nothing, or a point and digits -/
def fracText (ds : Bytes) : Bytes := if ds.isEmpty then [] else 46 :: ds

theorem fmtFrac_fst (w p : Nat) : (fmtFrac w p).1 = fracText (fracDigits p w false) := rfl
theorem fmtFrac_snd (w p : Nat) : (fmtFrac w p).2 = w / 10 ^ p := rfl

theorem stops_of_notNumStart {c : UInt8} (r : Bytes) (hc : numStart c = false) : Stops (c :: r) :=
  (Bool.or_eq_false_iff.mp hc).2

theorem stops_fracText (ds : Bytes) {c : UInt8} (r : Bytes) (hc : numStart c = false) : Stops (fracText ds ++ c :: r) := by
  cases ds with
  | nil => exact stops_of_notNumStart r hc
  | cons _ _ => exact (rfl : isDig 46 = false)

/-- how the parser sees that a scanner consumed something -/
theorem length_bne_cons_append {α} (a : α) (l r : List α) : (r.length != (a :: l ++ r).length) = true := by
  rw [bne_iff_ne, List.length_append, List.length_cons]; omega

theorem fracPart_fracText (ds : Bytes) (c : UInt8) (r : Bytes) (hd : AllDig ds) (hb : dval ds 0 < 10 ^ 18) (hc : numStart c = false) :
    fracPart (fracText ds ++ c :: r) = (dval ds 0, ds.length, c :: r, !ds.isEmpty) := by
  cases ds with
  | nil =>
    show fracPart (c :: r) = _
    unfold fracPart
    split
    · next h => injection h with h; subst h; exact nomatch hc
    · rfl
  | cons d ds =>
    have hl := length_bne_cons_append d ds (c :: r)
    have h := leadingFraction_digits (d :: ds) (c :: r) 0 0 hd hb (stops_of_notNumStart r hc)
    rw [Nat.zero_add] at h
    show fracPart (46 :: ((d :: ds) ++ c :: r)) = _
    simp only [fracPart, h, hl, List.isEmpty_cons, Bool.not_false]

theorem roundScan_eq {c : UInt8} {t s1 s2 u s3 : Bytes} {v f k : Nat} {post : Bool} (hc : numStart c = true)
    (h1 : leadingInt (c :: t) 0 = some (v, s1)) (hpre : (s1.length != (c :: t).length) = true)
    (h2 : fracPart s1 = (f, k, s2, post)) (h3 : unitSpan s2 = (u, s3)) (hu : u.isEmpty = false) :
    roundScan (c :: t) = .ok (v, f, k, u, s3) := by
  simp only [roundScan, show (c == 46 || (48 ≤ c && c ≤ 57)) = true from hc, h1, hpre, h2, h3, hu, Bool.not_true, Bool.false_and,
    Bool.false_eq_true, ↓reduceIte]

theorem roundScan_field (v : Nat) (ds u rest : Bytes) (hv : v ≤ two63) (hd : AllDig ds) (hb : dval ds 0 < 10 ^ 18)
    (hne : u.isEmpty = false) (hu : ∀ c ∈ u, numStart c = false) (hr : Starts rest) :
    roundScan (fmtInt v ++ (fracText ds ++ (u ++ rest))) = .ok (v, dval ds 0, ds.length, u, rest) := by
  obtain ⟨c, t, hct, hc⟩ := fmtInt_head v
  match u, hne, hu with
  | cu :: tu, _, hu =>
    have hcu := hu cu (List.mem_cons_self ..)
    have h1 := leadingInt_fmtInt v _ hv (stops_fracText ds (tu ++ rest) hcu)
    rw [hct] at h1 ⊢
    exact roundScan_eq hc h1 (length_bne_cons_append ..) (fracPart_fracText ds cu _ hd hb hcu) (unitSpan_unit _ rest hu hr) rfl

/-- The arithmetic half with the exact product. Whether or not the parser takes its `f > 0` branch it adds
    `f * (unit / 10^k)` (zero without a fraction), so a field with a fraction and one without are one statement. -/
theorem unitApply_exact (U v f k d : Nat) (hU : 0 < U) (hb : d + (v * U + f * (U / 10 ^ k)) ≤ two63) :
    unitApply fmulExact U v f k d = .ok (d + (v * U + f * (U / 10 ^ k))) := by
  have h1 : ¬ v > two63 / U :=
    Nat.not_lt.mpr ((Nat.le_div_iff_mul_le hU).mpr (Nat.le_trans (Nat.le_add_right ..) (Nat.le_trans (Nat.le_add_left ..) hb)))
  have h2 : (if f > 0 then v * U + fmulExact f U k else v * U) = v * U + f * (U / 10 ^ k) := by
    split
    · rfl
    · next h => rw [Nat.eq_zero_of_not_pos h, Nat.zero_mul, Nat.add_zero]
  have h3 : ¬ v * U + f * (U / 10 ^ k) > two63 := Nat.not_lt.mpr (Nat.le_trans (Nat.le_add_left ..) hb)
  have h4 : (d + (v * U + f * (U / 10 ^ k))) % 2 ^ 64 = d + (v * U + f * (U / 10 ^ k)) :=
    Nat.mod_eq_of_lt (Nat.lt_of_le_of_lt hb (by decide))
  simp only [unitApply, h1, h2, h3, h4, ↓reduceIte, decide_false, Bool.and_false, Bool.false_eq_true,
    Nat.not_lt.mpr hb]

theorem parseRound_eq {units : List (Bytes × Nat)} {fmul : Nat → Nat → Nat → Nat} {s u s3 : Bytes} {v f k U d d' : Nat}
    (h1 : roundScan s = .ok (v, f, k, u, s3)) (h2 : units.lookup u = some U) (h3 : unitApply fmul U v f k d = .ok d') :
    parseRound units fmul s d = .ok (s3, d') := by
  simp only [parseRound, h1, h2, h3]

/-- A unit text the formatter writes, with its entry in the table: not empty, no digit and no point (so the scanners
    stop before it and `unitSpan` takes all of it), worth `U` > 0 nanoseconds. -/
def GoodUnit (units : List (Bytes × Nat)) (u : Bytes) (U : Nat) : Prop :=
  u.isEmpty = false ∧ (∀ c ∈ u, numStart c = false) ∧ units.lookup u = some U ∧ 0 < U

instance (units : List (Bytes × Nat)) (u : Bytes) (U : Nat) : Decidable (GoodUnit units u U) := by
  unfold GoodUnit; infer_instance

variable {units : List (Bytes × Nat)}

theorem parseLoop_nil (units : List (Bytes × Nat)) (fmul : Nat → Nat → Nat → Nat) (fuel d : Nat) :
    parseLoop units fmul fuel [] d = .ok d := by
  cases fuel <;> rfl

/-- a lone "0" has no unit -/
theorem parseLoop_zeroText (units : List (Bytes × Nat)) (fmul : Nat → Nat → Nat → Nat) (d : Nat) :
    parseLoop units fmul 1 [48] d = .error .missingUnit := rfl

theorem parseLoop_round {fmul : Nat → Nat → Nat → Nat} {s s3 : Bytes} {d d' : Nat} (fuel : Nat)
    (hne : s.isEmpty = false) (h : parseRound units fmul s d = .ok (s3, d')) :
    parseLoop units fmul (fuel + 1) s d = parseLoop units fmul fuel s3 d' := by
  simp only [parseLoop, hne, h, Bool.false_eq_true, ↓reduceIte]

/-- The loop reads `t`, whatever follows it and whatever was read before, in at most `t.length` rounds, and adds `x`.
    Closed under concatenation, so each shape of the formatter's text is a row by the way it is put together;
    the bound on the rounds is what `parseDuration`'s fuel (the length of the text) has to cover. -/
def Row (units : List (Bytes × Nat)) (t : Bytes) (x : Nat) : Prop :=
  Starts t ∧ ∃ n, n ≤ t.length ∧ ∀ rest d fuel, Starts rest → d + x ≤ two63 →
    parseLoop units fmulExact (n + fuel) (t ++ rest) d = parseLoop units fmulExact fuel rest (d + x)

namespace Row

theorem nil (units : List (Bytes × Nat)) : Row units [] 0 :=
  ⟨trivial, 0, Nat.le_refl _, fun _ _ _ _ _ => by rw [Nat.zero_add]; rfl⟩

theorem append {t t' : Bytes} {x x' : Nat} (h : Row units t x) (h' : Row units t' x') : Row units (t ++ t') (x + x') := by
  obtain ⟨hs, n, hn, hl⟩ := h
  obtain ⟨hs', n', hn', hl'⟩ := h'
  refine ⟨starts_append hs hs', n + n', List.length_append ▸ Nat.add_le_add hn hn', fun rest d fuel hr hb => ?_⟩
  rw [← Nat.add_assoc] at hb
  rw [Nat.add_assoc, List.append_assoc, hl _ _ _ (starts_append hs' hr) (Nat.le_trans (Nat.le_add_right ..) hb), hl' _ _ _ hr hb,
    Nat.add_assoc]

theorem cast {t : Bytes} {x x' : Nat} (h : Row units t x) (e : x = x') : Row units t x' := e ▸ h

theorem of_round {t : Bytes} {x : Nat} (hs : Starts t) (hne : t.isEmpty = false)
    (h : ∀ rest d, Starts rest → d + x ≤ two63 → parseRound units fmulExact (t ++ rest) d = .ok (rest, d + x)) :
    Row units t x := by
  cases t with
  | nil => exact nomatch hne
  | cons c t =>
    exact ⟨hs, 1, Nat.le_add_left 1 _, fun rest d fuel hr hb => by rw [Nat.add_comm 1 fuel, parseLoop_round fuel rfl (h rest d hr hb)]⟩

/-- A printed field is a row: the number `v`, the fraction digits `ds` after a point (no point when there are none),
    the unit. `plain` and `frac` say what it adds in the formatter's terms. -/
theorem digits (v : Nat) (ds : Bytes) {u : Bytes} {U : Nat} (hg : GoodUnit units u U) (hd : AllDig ds) (hds : dval ds 0 < 10 ^ 18) :
    Row units (fmtInt v ++ (fracText ds ++ u)) (v * U + dval ds 0 * (U / 10 ^ ds.length)) := by
  obtain ⟨c, t, hct, hc⟩ := fmtInt_head v
  obtain ⟨hne, hu, hl, hU⟩ := hg
  refine of_round (by rw [hct]; exact hc) (by rw [hct]; rfl) fun rest d hr hb => ?_
  have hv : v ≤ two63 := Nat.le_trans (Nat.le_mul_of_pos_right v hU) (by omega)
  rw [List.append_assoc, List.append_assoc]
  exact parseRound_eq (roundScan_field v ds u rest hv hd hds hne hu hr) hl (unitApply_exact U v _ _ d hU hb)

theorem plain (v : Nat) {u : Bytes} {U : Nat} (hg : GoodUnit units u U) : Row units (fmtInt v ++ u) (v * U) :=
  (digits v [] hg (fun _ h => nomatch h) (by decide)).cast (by rw [dval_nil, Nat.zero_mul, Nat.add_zero])

/-- a field with a fraction: "1.5µs", "10.000000001s" (the unit is 10^p and the low p digits of w follow the point) -/
theorem frac (v w : Nat) {p : Nat} {u : Bytes} {U : Nat} (hg : GoodUnit units u U) (hU : U = 10 ^ p) (hp : p ≤ 18) :
    Row units (fmtInt v ++ ((fmtFrac w p).1 ++ u)) (v * U + w % U) := by
  have hv := (fracDigits_val p w false).2
  have hlt : dval (fracDigits p w false) 0 < 10 ^ 18 :=
    Nat.lt_of_le_of_lt (Nat.le_mul_of_pos_right _ (Nat.pow_pos (by decide)))
      (hv ▸ Nat.lt_of_lt_of_le (Nat.mod_lt _ (Nat.pow_pos (by decide))) (Nat.pow_le_pow_right (by decide) hp))
  have := digits v _ hg (fracDigits_allDig p w false) hlt
  rwa [hU, Nat.pow_div (fracDigits_length ..) (by decide), hv, ← hU] at this

theorem loop {t : Bytes} {x : Nat} (h : Row units t x) (hx : x ≤ two63) : parseLoop units fmulExact t.length t 0 = .ok x := by
  obtain ⟨_, n, hn, hl⟩ := h
  have := hl [] 0 (t.length - n) trivial (by omega)
  rwa [Nat.add_sub_cancel' hn, List.append_nil, parseLoop_nil, Nat.zero_add] at this

theorem nil_val {x : Nat} (h : Row units [] x) (hx : x ≤ two63) : x = 0 :=
  (Except.ok.inj (h.loop hx)).symm

/-- the three tests `parseDuration` makes before its loop come out as for an unsigned, non-empty text other than "0"
    (which it accepts without a unit: the loop reads the row and would reject "0") -/
theorem tests {t : Bytes} {x : Nat} (h : Row units t x) (hne : t ≠ []) (hx : x ≤ two63) :
    (t == ([48] : Bytes)) = false ∧ t.isEmpty = false ∧ signSplit t = (false, t) := by
  cases t with
  | nil => exact absurd rfl hne
  | cons c r =>
    refine ⟨Bool.eq_false_iff.2 fun hb => ?_, rfl, signSplit_num c r h.1⟩
    have hloop := h.loop hx
    rw [eq_of_beq hb] at hloop
    exact nomatch (parseLoop_zeroText units fmulExact 0).symm.trans hloop

end Row

theorem parseDuration_row {t : Bytes} {x : Nat} (h : Row units t x) (hne : t ≠ []) (hx : x < two63) :
    parseDuration units fmulExact t = .ok (x : Int) := by
  obtain ⟨h1, h2, h3⟩ := h.tests hne (Nat.le_of_lt hx)
  simp only [parseDuration, h3, h1, h2, h.loop (Nat.le_of_lt hx), Bool.false_eq_true, ↓reduceIte, Nat.not_lt.mpr (Nat.le_sub_one_of_lt hx)]

theorem parseDuration_neg_row {t : Bytes} {x : Nat} (h : Row units t x) (hne : t ≠ []) (hx : x ≤ two63) :
    parseDuration units fmulExact (45 :: t) = .ok (-(x : Int)) := by
  obtain ⟨h1, h2, _⟩ := h.tests hne hx
  simp only [parseDuration, signSplit_neg, h1, h2, h.loop hx, Bool.false_eq_true, ↓reduceIte]

theorem fmtInt_length (k v : Nat) (hv : v < 10 ^ (k + 1)) : (fmtInt v).length ≤ k + 1 :=
  decDigits_length k _ v hv

theorem fmtFrac_length (v p : Nat) : (fmtFrac v p).1.length ≤ p + 1 := by
  rw [fmtFrac_fst, fracText]
  split
  · exact Nat.zero_le _
  · exact Nat.succ_le_succ (fracDigits_length p v false)

theorem field_length (v k : Nat) (suffix : Bytes) (hv : v < 10 ^ (k + 1)) :
    (field v suffix).length ≤ k + 1 + suffix.length := by
  unfold field
  split
  · rw [List.length_append]; exact Nat.add_le_add_right (fmtInt_length k v hv) _
  · exact Nat.zero_le _

/-- a digit of a mixed-radix number is below its radix -/
theorem mod_div_lt (u a b : Nat) (ha : 0 < a) : u % (a * b) / b < a :=
  Nat.mod_mul_left_div_self u b a ▸ Nat.mod_lt _ ha

theorem fracField_length (i w p k : Nat) (t : Bytes) (hi : i < 10 ^ (k + 1)) :
    (fmtInt i ++ ((fmtFrac w p).1 ++ t)).length ≤ k + 1 + (p + 1 + t.length) := by
  rw [List.length_append, List.length_append]
  exact Nat.add_le_add (fmtInt_length k i hi) (Nat.add_le_add_right (fmtFrac_length w p) _)

theorem fmtFractional_eq (u : Nat) :
    fmtFractional u = field (u / nsPerS / 60 / 60) [104] ++
      ((if u / nsPerS / 60 > 0 then fmtInt (u / nsPerS / 60 % 60) ++ [109] else []) ++
        (fmtInt (u / nsPerS % 60) ++ ((fmtFrac u 9).1 ++ [115]))) := by
  have e : (fmtFrac u 9).2 = u / nsPerS := rfl
  simp only [fmtFractional, field, e]
  split
  · split <;> simp only [List.append_assoc, List.nil_append]
  · next h => rw [if_neg (fun h' => h (Nat.pos_of_div_pos h'))]; simp only [List.append_assoc, List.nil_append]

theorem durText_natCast (u : Nat) (frac : Bool) :
    durText u frac = if u < nsPerS then fmtSubSecond u else if frac then fmtFractional u else fmtCompact u := by
  simp only [durText, Int.natAbs_natCast, if_neg (Int.not_lt.2 (Int.natCast_nonneg u))]

theorem durText_sign (d : Int) (frac : Bool) :
    durText d frac = if d < 0 then 45 :: durText d.natAbs frac else durText d.natAbs frac := by
  simp only [durText, Int.natAbs_natCast, if_neg (Int.not_lt.2 (Int.natCast_nonneg _))]

theorem lookup_stdUnitsOf (units : List (Bytes × Nat)) (u : Bytes) :
    (stdUnitsOf units).lookup u = if u = [100] then none else units.lookup u := by
  induction units with
  | nil => exact (ite_self _).symm
  | cons p r ih =>
    obtain ⟨k, b⟩ := p
    unfold stdUnitsOf at ih ⊢
    by_cases hk : k = [100]
    · subst hk
      rw [List.filter_cons, if_neg (by simp only [bne_self_eq_false, Bool.false_eq_true, not_false_eq_true]), ih, List.lookup_cons]
      by_cases hu : u = [100]
      · rw [if_pos hu, if_pos hu]
      · rw [if_neg hu, if_neg hu, beq_false_of_ne hu]
    · rw [List.filter_cons, if_pos (bne_iff_ne.mpr hk), List.lookup_cons, List.lookup_cons, ih]
      by_cases hu : u = [100]
      · rw [if_pos hu, if_pos hu, hu, beq_false_of_ne (Ne.symm hk)]
      · rw [if_neg hu, if_neg hu]

section
variable {T T' : List (Bytes × Nat)} {x : Bytes} (h : ∀ u, T'.lookup u = if u = x then none else T.lookup u)
  (fmul : Nat → Nat → Nat → Nat)
include h

theorem parseRound_without (s : Bytes) (d : Nat) :
    parseRound T' fmul s d = parseRound T fmul s d ∨ parseRound T' fmul s d = .error (.unknownUnit x) := by
  unfold parseRound
  cases roundScan s with
  | error e => exact .inl rfl
  | ok r =>
    obtain ⟨v, f, k, u, s3⟩ := r
    simp only [h u]
    by_cases hu : u = x
    · rw [if_pos hu, hu]; exact .inr rfl
    · rw [if_neg hu]; exact .inl rfl

theorem parseLoop_without (fuel : Nat) (s : Bytes) (d : Nat) :
    parseLoop T' fmul fuel s d = parseLoop T fmul fuel s d ∨ parseLoop T' fmul fuel s d = .error (.unknownUnit x) := by
  induction fuel generalizing s d with
  | zero => exact .inl rfl
  | succ fuel ih =>
    unfold parseLoop
    split
    · exact .inl rfl
    · rcases parseRound_without h fmul s d with e | e <;> rw [e]
      · cases parseRound T fmul s d with
        | error e => exact .inl rfl
        | ok r => exact ih r.1 r.2
      · exact .inr rfl

theorem parseDuration_without (s : Bytes) :
    parseDuration T' fmul s = parseDuration T fmul s ∨ parseDuration T' fmul s = .error (.unknownUnit x) := by
  unfold parseDuration
  generalize signSplit s = sp
  obtain ⟨neg, s1⟩ := sp
  simp only
  cases s1 == ([48] : Bytes) with
  | true => exact .inl rfl
  | false =>
    cases s1.isEmpty with
    | true => exact .inl rfl
    | false =>
      rcases parseLoop_without h fmul s1.length s1 0 with e | e <;> rw [e]
      · exact .inl rfl
      · exact .inr rfl

end

end Logg
