/-
  What every proof about the encoders rests on: the recursion scheme of values and attribute lists,
  the text of a scalar value, closure under `joinWith`, and `encodeRecord` by cases (blank Print,
  JSON / logfmt body, colored body piece by piece).
-/
import Logg.Model.Encoder

namespace Logg

/-- a text written raw between quotes (timestamp, time texts): no quote, no backslash -/
def inqB (t : Bytes) : Bool := t.all fun c => c != 34 && c != 92

theorem inqB_plain {t : Bytes} (h : inqB t = true) : ∀ c ∈ t, c ≠ 34 ∧ c ≠ 92 := fun c hc => by
  simpa using List.all_eq_true.mp h c hc

/- The field names both plain formats write. `plainHead` spells them as byte literals; the two are equal by evaluation. -/
def kTime : Bytes := [116, 105, 109, 101]
def kLogger : Bytes := [108, 111, 103, 103, 101, 114]
def kLevel : Bytes := [108, 101, 118, 101, 108]
def kMsg : Bytes := [109, 115, 103]

def isGroupVal : Val → Bool
  | .group _ => true
  | _ => false

/-- Recursion over values and attribute lists as `encVal` / `encAttrs` (and `plainVal`, `flatVal`,
    the domain predicates) go: a group of depth `fuel + 1` through its prepared members at `fuel`. -/
theorem Val.fuel_induct {PV : Nat → Val → Prop} {PA : Nat → List Attr → Prop}
    (scalar : ∀ fuel v, isGroupVal v = false → PV fuel v)
    (group0 : ∀ items, PV 0 (.group items))
    (group : ∀ fuel items, PA fuel (prepAttrs items) → PV (fuel + 1) (.group items))
    (nil : ∀ fuel, PA fuel [])
    (none : ∀ fuel rest, PA fuel rest → PA fuel (none :: rest))
    (some : ∀ fuel k g v rest, PV fuel v → PA fuel rest → PA fuel (some (k, g, v) :: rest)) :
    ∀ fuel, (∀ v, PV fuel v) ∧ (∀ as, PA fuel as) := by
  have attrs : ∀ fuel, (∀ v, PV fuel v) → ∀ as, PA fuel as := by
    intro fuel hv as
    induction as with
    | nil => exact nil fuel
    | cons a rest ih =>
      match a with
      | .none => exact none fuel rest ih
      | .some (k, g, v) => exact some fuel k g v rest (hv v) ih
  have vals : ∀ fuel, (∀ items, PV fuel (.group items)) → ∀ v, PV fuel v := by
    intro fuel hg v
    cases v with
    | group items => exact hg items
    | _ => exact scalar fuel _ rfl
  intro fuel
  induction fuel with
  | zero => exact ⟨vals 0 group0, attrs 0 (vals 0 group0)⟩
  | succ n ih =>
    have hv := vals (n + 1) fun items => group n items (ih.2 _)
    exact ⟨hv, attrs (n + 1) hv⟩

end Logg

namespace Logg.Lemmas
open Logg

theorem dedupeAttrs_sublist (s : List Attr) : (dedupeAttrs s).Sublist s := by
  fun_induction dedupeAttrs s with
  | case1 => exact .slnil
  | case2 a => exact .refl _
  | case3 a c rest _ ih => exact ih.cons a
  | case4 a c rest _ ih => exact ih.cons_cons a

theorem prepAttrs_subset (xs : List Attr) : ∀ a ∈ prepAttrs xs, a ∈ xs := fun _ ha =>
  (List.mergeSort_perm xs attrLe).mem_iff.mp ((dedupeAttrs_sublist _).subset ha)

theorem all_prepAttrs {p : Attr → Bool} {items : List Attr} (h : items.all p = true) : ∀ a ∈ prepAttrs items, p a = true :=
  fun a ha => List.all_eq_true.mp h a (prepAttrs_subset items a ha)

end Logg.Lemmas

namespace Logg

/-- a value that is not a group is written without regard to depth, key prefix or colours -/
theorem encVal_scalar {c d : EncCfg} (hf : c.fmt = d.fmt) (hp : c.isPrint = d.isPrint) {v : Val}
    (hv : isGroupVal v = false) (fuel fuel' : Nat) (pfx pfx' : Bytes) :
    encVal c fuel pfx v = encVal d fuel' pfx' v := by
  have hj : c.json = d.json := by simp only [EncCfg.json, hf]
  have hn : c.noColor = d.noColor := by simp only [EncCfg.noColor, hf]
  have hq : c.quote = d.quote := by funext s; simp only [EncCfg.quote, hj, hp]
  have hjq : jsonQuoted c = jsonQuoted d := by funext t; simp only [jsonQuoted, hj]
  have htt : timeText c = timeText d := by funext t; simp only [timeText, hn]
  cases v with
  | group items => cases hv
  | _ => simp only [encVal, tstampText, hf, hj, hn, hq, hjq, htt]

theorem joinWith_closed {P : Bytes → Prop} (nil : P []) (app : ∀ {a b}, P a → P b → P (a ++ b))
    {sep : Bytes} (hs : P sep) : ∀ xs : List Bytes, (∀ x ∈ xs, P x) → P (joinWith sep xs)
  | [], _ => nil
  | [x], h => h x (List.mem_singleton.mpr rfl)
  | x :: y :: rest, h =>
    app (app (h x (List.mem_cons_self ..)) hs)
      (joinWith_closed nil app hs (y :: rest) fun z hz => h z (List.mem_cons_of_mem _ hz))

theorem complexText_closed {P : Bytes → Prop} (app : ∀ {a b}, P a → P b → P (a ++ b))
    (h40 : P [40]) (h43 : P [43]) (hend : P [105, 41]) {re im : Bytes} (hre : P re) (him : P im) : P (complexText re im) := by
  unfold complexText
  split
  · exact app (app (app h40 hre) him) hend
  · exact app (app (app h40 hre) him) hend
  · exact app (app (app (app h40 hre) h43) him) hend

/-- the colored payload as `encodeRecord` assembles it once the tag is known, piece for piece as
    `colorLayout` lists them: what is proved of colored records is proved of this, for any colours -/
def colorBody (c : EncCfg) (minWidth depth : Nat) (tag : Bytes) (r : Record) : Bytes :=
  let (first, rest, eol) := splitFirstRest r.msg
  esc 32 ++ r.ts ++ [124, 32] ++
  (if r.name.isEmpty then [] else echoColorAndBg 37 (-1) ++ r.name ++ escReset ++ [32]) ++
  (echoColorAndBg c.clr c.bg ++ [91] ++ tag ++ [93] ++ escReset ++ [32]) ++
  wrapColorAndBg (rightPad first minWidth) c.clr c.bg ++
  encTopAttrs c depth r.attrs ++
  (match r.caller with
   | none => []
   | some (file, line, _, fnShown) =>
     [32] ++ file ++ [58] ++ intDigits line ++ [32] ++ esc 90 ++ fnShown ++ escReset ++ escReset) ++
  (if rest.isEmpty then []
   else [10] ++
     (match splitLines rest with
      | [l] => List.replicate 4 32 ++ l
      | ls => joinWith [10] (ls.map fun l => wrapColorAndBg (List.replicate 4 32 ++ l) c.clr c.bg)) ++
     (if eol then [10] else [])) ++
  [10]

theorem encodeRecord_blank {f : Fmt} {isPrint : Nat → Bool} {p : Presentation} {depth : Nat} {r : Record}
    (hb : (r.lvl == Lv.always && isBlank r.msg) = true) : encodeRecord f isPrint p depth r = some [10] := by
  rw [encodeRecord, if_pos hb]

theorem encodeRecord_color {isPrint : Nat → Bool} {p : Presentation} {depth : Nat} {r : Record}
    (hnb : (r.lvl == Lv.always && isBlank r.msg) = false) :
    encodeRecord .color isPrint p depth r =
      (p.reg.shortTag r.lvl p.tagWidth).bind fun tag =>
        if needsTranslate (rightPad (splitFirstRest r.msg).1 p.minWidth) then none
        else some (colorBody { fmt := .color, isPrint := isPrint, clr := (levelColors p r.lvl).1, bg := (levelColors p r.lvl).2 }
          p.minWidth depth tag r) := by
  rw [encodeRecord, hnb]
  cases p.reg.shortTag r.lvl p.tagWidth <;> rfl

theorem encodeRecord_color_some {isPrint : Nat → Bool} {p : Presentation} {depth : Nat} {r : Record} {out : Bytes}
    (hnb : (r.lvl == Lv.always && isBlank r.msg) = false) (h : encodeRecord .color isPrint p depth r = some out) :
    ∃ tag, p.reg.shortTag r.lvl p.tagWidth = some tag ∧
      out = colorBody { fmt := .color, isPrint := isPrint, clr := (levelColors p r.lvl).1, bg := (levelColors p r.lvl).2 }
        p.minWidth depth tag r := by
  rw [encodeRecord_color hnb] at h
  obtain ⟨tag, ht, h⟩ := Option.bind_eq_some_iff.1 h
  split at h
  · cases h
  · exact ⟨tag, ht, (Option.some.inj h).symm⟩

theorem encodeRecord_plain {f : Fmt} (hf : f ≠ .color) {isPrint : Nat → Bool} {p : Presentation} {depth : Nat} {r : Record}
    (hnb : (r.lvl == Lv.always && isBlank r.msg) = false) :
    encodeRecord f isPrint p depth r =
      some (plainBody { fmt := f, isPrint := isPrint } (p.reg.name r.lvl) depth r ++ [10]) := by
  rw [encodeRecord, hnb]
  cases f <;> first | rfl | exact absurd rfl hf

theorem encodeRecord_ends {f : Fmt} {isPrint : Nat → Bool} {p : Presentation} {depth : Nat} {r : Record} {out : Bytes}
    (h : encodeRecord f isPrint p depth r = some out) : ∃ body, out = body ++ [10] := by
  cases hb : (r.lvl == Lv.always && isBlank r.msg) with
  | true => rw [encodeRecord_blank hb] at h; exact ⟨[], (Option.some.inj h).symm⟩
  | false =>
    by_cases hf : f = .color
    · subst hf
      obtain ⟨tag, _, rfl⟩ := encodeRecord_color_some hb h
      exact ⟨_, rfl⟩
    · rw [encodeRecord_plain hf hb] at h
      exact ⟨_, (Option.some.inj h).symm⟩

end Logg
