/- hexadecimal digits: what `hexChar` writes, and reading back what hex2 / hex4 / hex8 wrote -/
import Logg.Model.Unquote
namespace Logg

theorem hexChar_mod (n : Nat) : hexChar n = hexChar (n % 16) := by simp only [hexChar, Nat.mod_mod]

/-- what holds of the sixteen digits holds of whatever `hexChar` writes -/
theorem hexChar_forall {p : UInt8 → Prop} (h : ∀ k : Fin 16, p (hexChar k.val)) (n : Nat) : p (hexChar n) :=
  hexChar_mod n ▸ h ⟨n % 16, Nat.mod_lt _ (by decide)⟩

/-- what holds of the sixteen digits holds of every byte of `hex2 n`, `hex4 n`, `hex8 n` -/
theorem hex_forall {p : UInt8 → Prop} (h : ∀ k : Fin 16, p (hexChar k.val)) (n : Nat) :
    (∀ c ∈ hex2 n, p c) ∧ (∀ c ∈ hex4 n, p c) ∧ (∀ c ∈ hex8 n, p c) := by
  have hc := hexChar_forall h
  have h4 : ∀ m, ∀ c ∈ hex4 m, p c := fun m => by simp only [hex4, List.forall_mem_cons]; exact ⟨hc _, hc _, hc _, hc _, nofun⟩
  exact ⟨by simp only [hex2, List.forall_mem_cons]; exact ⟨hc _, hc _, nofun⟩, h4 n, List.forall_mem_append.2 ⟨h4 _, h4 _⟩⟩

theorem unhex_hexChar (n : Nat) : unhex (hexChar n) = some (n % 16) := by
  have h : ∀ k : Fin 16, unhex (hexChar k.val) = some k.val := by decide
  rw [hexChar_mod]; exact h ⟨n % 16, Nat.mod_lt _ (by decide)⟩

/-- Horner's rule for two groups of digits read as one: `n / B % A` in front of `n % B` is `n % (B * A)`. -/
theorem horner_mod (acc n A B : Nat) : (acc * A + n / B % A) * B + n % B = acc * (A * B) + n % (B * A) := by
  rw [Nat.mod_mul, Nat.add_mul, Nat.mul_assoc, Nat.add_assoc, Nat.mul_comm B, Nat.add_comm (n % B)]

theorem hexValueAcc_hexChar (acc n : Nat) (rest : Bytes) :
    hexValue.hexValueAcc acc (hexChar n :: rest) = hexValue.hexValueAcc (acc * 16 + n % 16) rest := by
  rw [hexValue.hexValueAcc, unhex_hexChar]; rfl

theorem hexValueAcc_hex2 (acc n : Nat) (rest : Bytes) :
    hexValue.hexValueAcc acc (hex2 n ++ rest) = hexValue.hexValueAcc (acc * 256 + n % 256) rest := by
  rw [hex2, List.cons_append, List.cons_append, hexValueAcc_hexChar, hexValueAcc_hexChar, horner_mod acc n 16 16]; rfl

theorem hexValueAcc_hex4 (acc n : Nat) (rest : Bytes) :
    hexValue.hexValueAcc acc (hex4 n ++ rest) = hexValue.hexValueAcc (acc * 65536 + n % 65536) rest := by
  have : hex4 n = hex2 (n / 256) ++ hex2 n := by rw [hex4, hex2, hex2, Nat.div_div_eq_div_mul]; rfl
  rw [this, List.append_assoc, hexValueAcc_hex2, hexValueAcc_hex2, horner_mod acc n 256 256]

theorem hexValueAcc_hex8 (acc n : Nat) (rest : Bytes) :
    hexValue.hexValueAcc acc (hex8 n ++ rest) = hexValue.hexValueAcc (acc * 4294967296 + n % 4294967296) rest := by
  rw [hex8, List.append_assoc, hexValueAcc_hex4, hexValueAcc_hex4, horner_mod acc n 65536 65536]

theorem hexValue_eq (s : Bytes) : hexValue s = hexValue.hexValueAcc 0 s := by cases s <;> rfl

theorem hexValue_hex2 (n : Nat) : hexValue (hex2 n) = some (n % 256) := by
  rw [hexValue_eq, ← List.append_nil (hex2 n), hexValueAcc_hex2, Nat.zero_mul, Nat.zero_add]; rfl
theorem hexValue_hex4 (n : Nat) : hexValue (hex4 n) = some (n % 65536) := by
  rw [hexValue_eq, ← List.append_nil (hex4 n), hexValueAcc_hex4, Nat.zero_mul, Nat.zero_add]; rfl
theorem hexValue_hex8 (n : Nat) : hexValue (hex8 n) = some (n % 4294967296) := by
  rw [hexValue_eq, ← List.append_nil (hex8 n), hexValueAcc_hex8, Nat.zero_mul, Nat.zero_add]; rfl

/-- the JSON escaper's `\u00XX` for a control byte is that byte in four digits -/
theorem hex4_byte {n : Nat} (h : n < 256) : hex4 n = 48 :: 48 :: hex2 n := by
  rw [hex4, Nat.div_eq_of_lt (Nat.lt_trans h (by decide)), Nat.div_eq_of_lt h]; rfl
end Logg
