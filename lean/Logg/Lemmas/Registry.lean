/- What the operations of the level registry compute, stated once for the properties that use them (C17, C06). -/
import Logg.Model.Registry

namespace Logg.Lemmas
open Logg

/-- what a successful `register` found, and what it did to each table the properties read -/
structure Registered (r r' : Registry) (v : Int) (t : Bytes) (p : RegPack) : Prop where
  fresh : v ∉ r.allLevels
  unused : r.stringToLevel.lookup t = none
  allLevels : r'.allLevels = r.allLevels ++ [v]
  levelToString : r'.levelToString = assocSet r.levelToString v t
  stringToLevel : r'.stringToLevel = assocSet r.stringToLevel t v
  treatAs : r'.treatAs = (if p.treatAs < Lv.max then assocSet r.treatAs v p.treatAs else r.treatAs)
  errorDevice : r'.errorDevice = (if p.toErr then assocSet r.errorDevice v true else r.errorDevice)

theorem register_eq_some {r r' : Registry} {v : Int} {t : Bytes} {p : RegPack} (h : r.register v t p = some r') :
    Registered r r' v t p := by
  unfold Registry.register at h
  by_cases hv : r.allLevels.contains v = true
  · rw [if_pos hv] at h; cases h
  by_cases ht : (r.stringToLevel.lookup t).isSome = true
  · rw [if_neg hv, if_pos ht] at h; cases h
  rw [if_neg hv, if_neg ht] at h
  cases h
  exact ⟨fun hm => hv (List.contains_iff_mem.2 hm), Option.not_isSome_iff_eq_none.1 ht, rfl, rfl, rfl, rfl, rfl⟩

/-- Without a custom tag `ShortTag(n)` fits the level's name to `n` bytes (cut, padded, or `n` question marks). -/
theorem shortTag_length (r : Registry) (l : Int) (n : Nat) (hn : 1 ≤ n ∧ n ≤ 5)
    (hno : r.hasCustomTag l n = false) :
    ∃ t, r.shortTag l n = some t ∧ t.length = n := by
  have h1 : ¬ ((n : Int) ≤ 0 ∨ (n : Int) ≥ maxLengthShortTag) := by
    simp only [maxLengthShortTag]; omega
  have hnone : (List.lookup n r.shortTags).bind (fun row => List.lookup l row) = none :=
    Option.not_isSome_iff_eq_none.1 (Bool.not_eq_true _ ▸ hno)
  rw [Registry.shortTag, if_neg h1]
  simp only [Int.toNat_natCast, hnone]
  by_cases hl : (r.name l).length > 0
  · rw [if_pos hl]
    by_cases he : (r.name l).length = n
    · exact ⟨_, if_pos he, he⟩
    · rw [if_neg he]
      by_cases hlt : (r.name l).length < n
      · exact ⟨_, if_pos hlt, by simp⟩
      · exact ⟨_, if_neg hlt, by simp; omega⟩
  · exact ⟨_, if_neg hl, by simp⟩

end Logg.Lemmas
