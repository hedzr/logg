/-
  The byte-wise key order is core's lexicographic order on byte lists, so core's order lemmas apply to it; and what
  `dedupeLast` does to a list sorted by key (the sort being core's stable `mergeSort`).
-/
import Logg.Model.Attrs

namespace Logg.Lemmas
open Logg

theorem bytesLe_iff_le (a c : Bytes) : bytesLe a c = true ↔ a ≤ c := by
  induction a generalizing c with
  | nil => simp [bytesLe]
  | cons x xs ih =>
    cases c with
    | nil => simp [bytesLe]
    | cons y ys =>
      rw [List.cons_le_cons_iff, ← ih]
      by_cases hlt : x < y <;> by_cases he : x = y <;> simp [bytesLe, hlt, he]

theorem kvLe_iff (a c : KV) : kvLe a c = true ↔ a.key ≤ c.key := bytesLe_iff_le _ _

theorem kvLe_trans (a c d : KV) : kvLe a c = true → kvLe c d = true → kvLe a d = true := by
  simp only [kvLe_iff]; exact List.le_trans

theorem kvLe_total (a c : KV) : (kvLe a c || kvLe c a) = true := by
  simpa only [Bool.or_eq_true, kvLe_iff] using List.le_total a.key c.key

/-- sorted by key, as `mergeSort kvLe` leaves a list -/
abbrev Sorted (s : List KV) : Prop := s.Pairwise (fun x y => kvLe x y = true)

theorem sorted_mergeSort (xs : List KV) : Sorted (xs.mergeSort kvLe) :=
  List.pairwise_mergeSort kvLe_trans kvLe_total xs

/-- In a sorted list the elements of one key are adjacent, so looking at the next element is looking
    at all later ones: `dedupeLast` drops exactly the elements whose key comes again. -/
theorem dedupeLast_cons {a : KV} {t : List KV} (hs : Sorted (a :: t)) :
    dedupeLast (a :: t) = if t.any (·.key == a.key) then dedupeLast t else a :: dedupeLast t := by
  cases t with
  | nil => rfl
  | cons c rest =>
    have : (a.key == c.key) = (c :: rest).any (·.key == a.key) := by
      rw [Bool.eq_iff_iff, List.any_eq_true, beq_iff_eq]
      refine ⟨fun h => ⟨c, List.mem_cons_self, beq_iff_eq.2 h.symm⟩, fun ⟨y, hy, hya⟩ => ?_⟩
      have hac := (kvLe_iff a c).1 (List.rel_of_pairwise_cons hs List.mem_cons_self)
      have hcy : c.key ≤ y.key := by
        rcases List.mem_cons.1 hy with rfl | hy
        · exact List.le_refl _
        · exact (kvLe_iff c y).1 (List.rel_of_pairwise_cons hs.of_cons hy)
      exact List.le_antisymm hac (beq_iff_eq.1 hya ▸ hcy)
    rw [dedupeLast, this]

theorem dedupeLast_sublist (s : List KV) : (dedupeLast s).Sublist s := by
  fun_induction dedupeLast s with
  | case1 => exact .slnil
  | case2 a => exact .refl _
  | case3 a c rest _ ih => exact ih.cons a
  | case4 a c rest _ ih => exact ih.cons_cons a

/-- The value printed under key `k` by a de-duplicated sorted list is that of the last element
    with key `k`. -/
theorem dedupeLast_last (s : List KV) (hs : Sorted s) (k : Bytes) :
    (dedupeLast s).find? (fun x => x.key == k) = (s.filter (fun x => x.key == k)).getLast? := by
  induction s with
  | nil => rfl
  | cons a t ih =>
    rw [dedupeLast_cons hs]
    by_cases hk : (a.key == k) = true
    · obtain rfl : a.key = k := eq_of_beq hk
      rw [List.filter_cons_of_pos (p := fun x : KV => x.key == a.key) hk, List.getLast?_cons, ← ih hs.of_cons]
      by_cases hany : t.any (·.key == a.key) = true
      · -- a later element has the key: the filtered tail is not empty and its last element is the answer
        obtain ⟨y, hy, hya⟩ := List.any_eq_true.1 hany
        have hne : t.filter (fun x => x.key == a.key) ≠ [] := List.ne_nil_of_mem (List.mem_filter.2 ⟨hy, hya⟩)
        rw [if_pos hany, ih hs.of_cons, List.getLast?_eq_some_getLast hne]; rfl
      · rw [if_neg hany, List.find?_cons_of_pos (p := fun x : KV => x.key == a.key) hk, ih hs.of_cons,
          List.filter_eq_nil_iff.2 (List.any_eq_false.1 (Bool.not_eq_true _ ▸ hany))]; rfl
    · rw [List.filter_cons_of_neg (p := fun x : KV => x.key == k) hk, ← ih hs.of_cons]
      by_cases hany : t.any (·.key == a.key) = true
      · rw [if_pos hany]
      · rw [if_neg hany, List.find?_cons_of_neg (p := fun x : KV => x.key == k) hk]

/-- A stable sort leaves the elements of one key in their original relative order. -/
theorem mergeSort_filter_key (xs : List KV) (k : Bytes) :
    (xs.mergeSort kvLe).filter (fun x => x.key == k) = xs.filter (fun x => x.key == k) := by
  have hsorted : Sorted (xs.filter (fun x => x.key == k)) :=
    List.pairwise_of_forall_mem_list fun a ha c hc => by
      simp only [List.mem_filter, beq_iff_eq] at ha hc
      rw [kvLe_iff, ha.2, hc.2]; exact List.le_refl k
  have hsub := (List.sublist_mergeSort kvLe_trans kvLe_total hsorted List.filter_sublist).filter (fun x => x.key == k)
  simp only [List.filter_filter, Bool.and_self] at hsub
  exact (hsub.eq_of_length ((List.mergeSort_perm xs kvLe).filter _).length_eq.symm).symm

end Logg.Lemmas
