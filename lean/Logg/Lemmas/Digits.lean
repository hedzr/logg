/-
  Bytes as numbers, and the decimal digit strings of the model (`decDigits`, and through it `natDigits`, `intDigits`): which bytes
  they hold, how long they are, when they are all zeros.
-/
import Logg.Model.Basic

namespace Logg

theorem toUInt8_toNat_add (m : Nat) {k x : Nat} (hx : x < k) (hm : m + k ≤ 256) : (m + x).toUInt8.toNat = m + x :=
  UInt8.toNat_ofNat_of_lt' (Nat.lt_of_lt_of_le (Nat.add_lt_add_left hx m) hm)

theorem digit_toNat {d : Nat} (h : d < 10) : (48 + d).toUInt8.toNat = 48 + d := toUInt8_toNat_add 48 h (by decide)

theorem decDigits_digit (f v : Nat) : ∀ c ∈ decDigits f v, 48 ≤ c.toNat ∧ c.toNat ≤ 57 := by
  have dig {d : Nat} (h : d < 10) : ∀ c ∈ [(48 + d).toUInt8], 48 ≤ c.toNat ∧ c.toNat ≤ 57 :=
    List.forall_mem_singleton.2 ((digit_toNat h).symm ▸ ⟨Nat.le_add_right _ _, Nat.add_le_add_left (Nat.le_of_lt_succ h) 48⟩)
  induction f, v using decDigits.induct_unfolding with
  | case1 => nofun
  | case2 _ _ h => exact dig h
  | case3 _ v _ ih => exact List.forall_mem_append.2 ⟨ih, dig (Nat.mod_lt v (by decide))⟩

theorem digit_ne {c b : UInt8} (h : 48 ≤ c.toNat ∧ c.toNat ≤ 57) (hb : ¬(48 ≤ b.toNat ∧ b.toNat ≤ 57) := by decide) : c ≠ b :=
  fun e => hb (e ▸ h)

theorem natDigits_digit (n : Nat) : ∀ c ∈ natDigits n, 48 ≤ c.toNat ∧ c.toNat ≤ 57 := decDigits_digit _ _

theorem intDigits_byte (i : Int) : ∀ c ∈ intDigits i, c = 45 ∨ (48 ≤ c.toNat ∧ c.toNat ≤ 57) := by
  intro c hc
  unfold intDigits at hc
  split at hc
  · exact (List.mem_cons.mp hc).imp id (natDigits_digit _ c)
  · exact Or.inr (natDigits_digit _ c hc)

theorem decDigits_ne_nil (f v : Nat) : decDigits (f + 1) v ≠ [] := by
  simp only [decDigits]; split <;> simp

theorem decDigits_length (k f v : Nat) (hv : v < 10 ^ (k + 1)) : (decDigits f v).length ≤ k + 1 := by
  induction f, v using decDigits.induct_unfolding generalizing k with
  | case1 => exact Nat.zero_le _
  | case2 => exact Nat.le_add_left 1 k
  | case3 f v h ih =>
    cases k with
    | zero => exact absurd hv h
    | succ k => rw [List.length_append]; exact Nat.succ_le_succ (ih k ((Nat.div_lt_iff_lt_mul (by decide)).2 hv))

theorem decDigits_nonzero (f v : Nat) (hv : v < 10 ^ f) : (decDigits f v).any (· != 48) = decide (v ≠ 0) := by
  induction f, v using decDigits.induct_unfolding with
  | case1 v => cases Nat.lt_one_iff.1 hv; rfl
  | case2 f v h =>
    by_cases h0 : v = 0
    · subst h0; rfl
    · have : (48 + v).toUInt8 ≠ 48 := fun e => h0 (Nat.add_left_cancel ((digit_toNat h).symm.trans (congrArg UInt8.toNat e)))
      rw [decide_eq_true h0]; exact (Bool.or_false _).trans (bne_iff_ne.2 this)
  | case3 f v h ih =>
    have h1 : v / 10 ≠ 0 := fun e => h (Nat.lt_of_div_eq_zero (by decide) e)
    have h0 : v ≠ 0 := fun e => h (e ▸ by decide)
    rw [List.any_append, ih ((Nat.div_lt_iff_lt_mul (by decide)).2 hv), decide_eq_true h1, decide_eq_true h0, Bool.true_or]

theorem natDigits_nonzero (n : Nat) : (natDigits n).any (· != 48) = decide (n ≠ 0) := by
  unfold natDigits
  apply decDigits_nonzero
  exact Nat.lt_of_lt_of_le (Nat.lt_pow_self (show 1 < 10 by decide)) (Nat.pow_le_pow_right (by decide) (Nat.le_succ n))

theorem intDigits_of_nonneg {n : Int} (hn : 0 ≤ n) : intDigits n = natDigits n.toNat := by
  simp [intDigits, show ¬ n < 0 from by omega]

end Logg
