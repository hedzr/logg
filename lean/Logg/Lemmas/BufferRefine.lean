/-
  When a buffer represents a queue of Model/BufferSpec (`Buf.Rep`), and what the pieces the operations are made of
  (moving the read point, appending, truncating, making room, writing) do to that queue.
-/
import Logg.Model.BufferSpec

namespace Logg

namespace Props.C19

/-- representation invariant: the read offset never passes the end of the data. (The capacity is an oracle input of
    the model and is not constrained: nothing here says `data.length ≤ cap`.) Named `Props.C19.Inv` because the C19
    statements say `Inv`; declared here because `Rep` and everything after it need it. -/
def Inv (s : Buf) : Prop := s.off ≤ s.data.length

end Props.C19

theorem abs_setLastRead (s : Buf) (k : Int) : ({ s with lastRead := k } : Buf).abs = { s.abs with lastRead := k } := rfl
theorem abs_unread (s : Buf) : s.abs.unread = s.unread := rfl
theorem abs_lastRead (s : Buf) : s.abs.lastRead = s.lastRead := rfl

theorem Buf.len_eq (s : Buf) : s.len = s.unread.length := (List.length_drop ..).symm

theorem Buf.empty_iff (s : Buf) : s.empty = s.unread.isEmpty := by
  rw [Buf.empty, Buf.unread, Bool.eq_iff_iff, List.isEmpty_iff, List.drop_eq_nil_iff, decide_eq_true_iff]

theorem indexByte_lt {p : Bytes} {d : UInt8} {i : Nat} (h : indexByte p d = some i) : i < p.length :=
  (List.findIdx?_eq_some_iff_findIdx_eq.mp h).1

theorem length_pos_of_not_isEmpty {p : Bytes} (h : ¬p.isEmpty = true) : 1 ≤ p.length :=
  List.length_pos_iff.2 fun e => h (List.isEmpty_iff.2 e)

/-- Next's count, cut down to the length -/
theorem clamp_toNat_le (n : Int) (m : Nat) : (if n > m then (m : Int) else n).toNat ≤ m :=
  Int.toNat_le.2 (by split; exact Int.le_refl _; exact Int.not_lt.1 ‹_›)

theorem Zip.fg_empty (f : Bool) : Zip.empty.fg f = Zip.empty := by cases f <;> rfl

theorem Zip.fg_with_fg (q : Zip) (u : Bytes) (f g : Bool) :
    ({ q.fg f with unread := u } : Zip).fg g = { q.fg (f || g) with unread := u } := by
  cases f <;> cases g <;> rfl

theorem Zip.room_eq (q : Zip) (f : Bool) :
    q.room f = (if q.unread.isEmpty && !q.done.isEmpty then Zip.empty else q).fg f := by
  unfold Zip.room
  split
  · exact (Zip.fg_empty f).symm
  · rfl

theorem Zip.room_unread (q : Zip) (f : Bool) : (q.room f).unread = q.unread := by
  unfold Zip.room
  split
  · rename_i hc
    rw [Bool.and_eq_true, List.isEmpty_iff] at hc
    exact hc.1.symm
  · cases f <;> rfl

/-- with no pending read kind, making room can only forget the consumed bytes -/
theorem Zip.room_fg {q : Zip} (hq : q.lastRead = 0) (f : Bool) : ∃ f', q.room f = q.fg f' := by
  unfold Zip.room
  split
  · rename_i hc
    rw [Bool.and_eq_true, List.isEmpty_iff] at hc
    refine ⟨true, ?_⟩
    cases q; simp only at hc hq; rw [hc.1, hq]; rfl
  · exact ⟨f, rfl⟩

namespace Buf

/-- `s` represents the queue `q`. This is `Inv s ∧ s.abs = q`, said with `++` so that no proof about an operation
    has to do arithmetic on `take` and `drop`. -/
structure Rep (s : Buf) (q : Zip) : Prop where
  data : s.data = q.done ++ q.unread
  off : s.off = q.done.length
  lastRead : s.lastRead = q.lastRead

variable {s : Buf} {q : Zip}

theorem rep_abs (h : Props.C19.Inv s) : Rep s s.abs :=
  ⟨(List.take_append_drop ..).symm, (List.length_take_of_le h).symm, rfl⟩

theorem rep_reset (s : Buf) : Rep s.reset Zip.empty := ⟨rfl, rfl, rfl⟩

namespace Rep

theorem inv (h : Rep s q) : Props.C19.Inv s := by
  unfold Props.C19.Inv; rw [h.data, h.off, List.length_append]; exact Nat.le_add_right ..

theorem abs (h : Rep s q) : s.abs = q := by
  cases q; simp only [Buf.abs, h.data, h.off, h.lastRead, List.take_left, List.drop_left]

theorem unread (h : Rep s q) : s.unread = q.unread := by
  rw [Buf.unread, h.data, h.off, List.drop_left]

theorem len (h : Rep s q) : s.len = q.unread.length := by rw [Buf.len_eq, h.unread]

theorem empty (h : Rep s q) : s.empty = q.unread.isEmpty := by rw [Buf.empty_iff, h.unread]

theorem setLastRead (h : Rep s q) (k : Int) : Rep { s with lastRead := k } { q with lastRead := k } :=
  ⟨h.data, h.off, rfl⟩

theorem advance (h : Rep s q) {k : Nat} (hk : k ≤ q.unread.length) (lr : Int) :
    Rep { s with off := s.off + k, lastRead := lr } (q.advance k lr) :=
  ⟨by simp only [Zip.advance, List.append_assoc, List.take_append_drop, h.data],
   by simp only [Zip.advance, List.length_append, List.length_take, Nat.min_eq_left hk, h.off], rfl⟩

theorem readAll (h : Rep s q) (lr : Int) :
    Rep { s with off := s.data.length, lastRead := lr } { done := q.done ++ q.unread, unread := [], lastRead := lr } :=
  ⟨by simp only [h.data, List.append_nil], congrArg List.length h.data, rfl⟩

theorem back (h : Rep s q) (k : Nat) : Rep { s with off := s.off - k, lastRead := 0 } (q.back k) :=
  ⟨by simp only [Zip.back, ← List.append_assoc, List.take_append_drop, h.data],
   by simp only [Zip.back, List.length_take, Nat.min_eq_left (Nat.sub_le ..), h.off], rfl⟩

theorem appendData (h : Rep s q) (p : Bytes) :
    Rep { s with data := s.data ++ p } { q with unread := q.unread ++ p } :=
  ⟨by simp only [h.data, List.append_assoc], h.off, h.lastRead⟩

theorem truncate (h : Rep s q) (n : Nat) :
    Rep { s with data := s.data.take (s.off + n) } { q with unread := q.unread.take n } :=
  ⟨by simp only [h.data, h.off, List.take_length_add_append], h.off, h.lastRead⟩

/-- growing that left the slice where it was -/
theorem kept (h : Rep s q) {s1 : Buf} (hd : s1.data = s.data) (ho : s1.off = s.off) (hl : s1.lastRead = s.lastRead) :
    Rep s1 q :=
  ⟨hd.trans h.data, ho.trans h.off, hl.trans h.lastRead⟩

/-- growing that moved the unread bytes to the front -/
theorem slid (h : Rep s q) {s1 : Buf} (hd : s1.data = s.unread) (ho : s1.off = 0) (hl : s1.lastRead = s.lastRead) :
    Rep s1 (q.fg true) :=
  ⟨hd.trans h.unread, ho, hl.trans h.lastRead⟩

theorem normalize (h : Rep s q) :
    Rep s.normalize (if q.unread.isEmpty && !q.done.isEmpty then Zip.empty else q) := by
  have e : (s.len == 0 && s.off != 0) = (q.unread.isEmpty && !q.done.isEmpty) := by
    rw [h.len, h.off]; cases q.unread <;> cases q.done <;> rfl
  unfold Buf.normalize
  rw [e]
  split
  · exact rep_reset s
  · exact h

end Rep

/-- `g` made room: it gave up with "too large", or returns a buffer with `P`. The capacities the runtime grants,
    nil-ness and where the bytes end up stay inside. -/
def Grows (g : Except BufPanic (Buf × List Nat)) (P : Buf → Prop) : Prop :=
  g = .error .tooLarge ∨ ∃ s1 c1, g = .ok (s1, c1) ∧ P s1

namespace Grows

variable {g : Except BufPanic (Buf × List Nat)} {P Q : Buf → Prop}

theorem ok {s1 : Buf} (h : P s1) (c1 : List Nat) : Grows (.ok (s1, c1)) P := .inr ⟨s1, c1, rfl, h⟩

theorem ite {c : Prop} [Decidable c] {a b : Except BufPanic (Buf × List Nat)}
    (ha : c → Grows a P) (hb : ¬c → Grows b P) : Grows (if c then a else b) P :=
  iteInduction (motive := (Grows · P)) ha hb

theorem mono (hg : Grows g P) (h : ∀ s1, P s1 → Q s1) : Grows g Q :=
  hg.imp_right fun ⟨s1, c1, e, p⟩ => ⟨s1, c1, e, h s1 p⟩

theorem bind (hg : Grows g P) {k : Buf × List Nat → Except BufPanic (Buf × List Nat)}
    (hk : ∀ s1 c1, P s1 → Grows (k (s1, c1)) Q) : Grows (g >>= k) Q := by
  rcases hg with rfl | ⟨s1, c1, rfl, h1⟩
  · exact .inl rfl
  · exact hk s1 c1 h1

end Grows

theorem growCore_grows (s : Buf) (n : Nat) (caps : List Nat) :
    Grows (s.growCore n caps) fun s1 => ∀ q, Rep s q → ∃ f, Rep s1 (q.fg f) := by
  unfold Buf.growCore
  refine .ite (fun _ => .ok (fun q h => ⟨false, h⟩) _) fun _ =>
    .ite (fun _ => .ok (fun q h => ⟨false, h.kept rfl rfl rfl⟩) _) fun _ =>
    .ite (fun _ => .ok (fun q h => ⟨true, h.slid rfl rfl rfl⟩) _) fun _ => .ite (fun _ => .inl rfl) fun _ => ?_
  cases caps <;> exact .ok (fun q h => ⟨true, h.slid rfl rfl rfl⟩) _

theorem growRoom_grows (s : Buf) (n : Nat) (caps : List Nat) :
    Grows (s.growRoom n caps) fun s1 => ∀ q, Rep s q → ∃ f, Rep s1 (q.room f) :=
  (growCore_grows s.normalize n caps).mono fun _ h1 q h => (h1 _ h.normalize).imp fun f hf => Zip.room_eq q f ▸ hf

/-- while no read kind is pending, the reset of an exhausted buffer that `grow` starts with is itself a forgetting of the
    consumed bytes (`Zip.room_fg`) -/
theorem growRoom_grows₀ (s : Buf) (n : Nat) (caps : List Nat) :
    Grows (s.growRoom n caps) fun s1 => ∀ q, Rep s q → q.lastRead = 0 → ∃ f, Rep s1 (q.fg f) :=
  (growRoom_grows s n caps).mono fun _ h1 q h h0 =>
    let ⟨f, hf⟩ := h1 q h
    let ⟨f', e⟩ := Zip.room_fg h0 f
    ⟨f', e ▸ hf⟩

/-- what every write does: room for `n` bytes is made unless it is there, then `p` is appended
    (`s.append p caps` is `s.put p.length p caps` by definition; WriteRune asks for `utf8.UTFMax`) -/
def put (s : Buf) (n : Nat) (p : Bytes) (caps : List Nat) : Except BufPanic (Buf × List Nat) := do
  let (s, caps) ← (if n ≤ s.cap - s.data.length then .ok (s, caps) else s.growRoom n caps)
  pure ({ s with data := s.data ++ p }, caps)

theorem put_grows (s : Buf) (n : Nat) (p : Bytes) (caps : List Nat) :
    Grows (s.put n p caps) fun s1 => ∀ q, Rep s q → q.lastRead = 0 → ∃ f, Rep s1 { q.fg f with unread := q.unread ++ p } :=
  (Grows.ite (fun _ => .ok (fun _ h _ => ⟨false, h⟩) _) fun _ => growRoom_grows₀ s n caps).bind fun _ _ h1 =>
    .ok (fun q h h0 => (h1 q h h0).imp fun f hf => by cases f <;> exact hf.appendData p) _

end Buf

end Logg
