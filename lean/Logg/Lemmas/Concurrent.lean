/-
  The invariant of the interleaving model (C08) is kept by a frame rule (`Inv.move`): a step replaces one goroutine's
  state and touches the pool, the buffers and the output only on that goroutine's behalf.
-/
import Logg.Model.Concurrent

namespace Logg

/-- one member of a list pulled to the front of what its members contribute -/
theorem perm_pull {α β} (f : α → List β) (X : List β) (A B : List α) (a : α) :
    (X ++ (A ++ a :: B).flatMap f).Perm ((X ++ f a) ++ (A ++ B).flatMap f) := by
  simp only [List.flatMap_append, List.flatMap_cons, List.append_assoc]
  exact (List.perm_append_comm_assoc _ _ _).append_left X

/-- The invariant: no context is in two hands; contexts are numbered below `fresh` (so a newly made one is new);
    a goroutine holding a context has a call to make; a formatted buffer holds the record of its owner's current
    call; every call is accounted for exactly once. -/
structure Inv (payload : CallId → Bytes) (total : List Bytes) (w : World) : Prop where
  nodup : (w.pool ++ held w.gs).Nodup
  bound : ∀ x ∈ w.pool ++ held w.gs, x < w.fresh
  busy : ∀ s ∈ w.gs, s.stage ≠ .idle → s.todo ≠ []
  filled : ∀ s ∈ w.gs, ∀ x, s.stage = .formatted x → ∃ c rest, s.todo = c :: rest ∧ w.bufs x = payload c
  account : (w.out ++ (pending w.gs).map payload).Perm total

theorem pending_map (payload : CallId → Bytes) (gs : List GState) :
    (pending gs).map payload = gs.flatMap fun r => (pend r).map payload := List.map_flatMap

/-- **Frame rule.** Goroutine g moves from s to s' and the shared state from w to w'. The invariant survives if
    the pool and g together hold the same contexts as before, or the next unused one besides; if s' is
    consistent with the buffers; if only buffers that g held were written; and if what was written out came
    off g's pending calls. -/
theorem Inv.move {payload : CallId → Bytes} {total : List Bytes} {w w' : World} {g : Nat} {s s' : GState}
    (h : Inv payload total w) (hg : w.gs[g]? = some s) (hgs : w'.gs = w.gs.set g s')
    (hres : (w'.pool ++ heldOf s').Perm (w.pool ++ heldOf s) ∧ w'.fresh = w.fresh ∨
            (w'.pool ++ heldOf s').Perm (w.fresh :: (w.pool ++ heldOf s)) ∧ w'.fresh = w.fresh + 1)
    (hbusy : s'.stage ≠ .idle → s'.todo ≠ [])
    (hbufs : ∀ y, y ∉ heldOf s → w'.bufs y = w.bufs y)
    (hfill : ∀ x, s'.stage = .formatted x → ∃ c rest, s'.todo = c :: rest ∧ w'.bufs x = payload c)
    (hout : (w'.out ++ (pend s').map payload).Perm (w.out ++ (pend s).map payload)) :
    Inv payload total w' := by
  obtain ⟨hlt, hs⟩ := List.getElem?_eq_some_iff.1 hg
  obtain ⟨A, B, hAB, -, hset⟩ := List.exists_of_set (a' := s') hlt
  rw [hs] at hAB; rw [hset] at hgs
  -- the other goroutines: unchanged, and what they hold is apart from what g and the pool hold
  have others : ∀ r ∈ w'.gs, r = s' ∨ r ∈ A ++ B := fun r hr => List.mem_cons.1 (List.perm_middle.mem_iff.1 (hgs ▸ hr))
  have old : ∀ r ∈ A ++ B, r ∈ w.gs := fun r hr => hAB ▸ List.perm_middle.mem_iff.2 (List.mem_cons_of_mem _ hr)
  have res : (w.pool ++ held w.gs).Perm ((w.pool ++ heldOf s) ++ held (A ++ B)) := hAB ▸ perm_pull heldOf _ A B s
  have res' : (w'.pool ++ held w'.gs).Perm ((w'.pool ++ heldOf s') ++ held (A ++ B)) := hgs ▸ perm_pull heldOf _ A B s'
  have nd := res.nodup_iff.1 h.nodup
  have bd := fun x hx => h.bound x (res.mem_iff.2 hx)
  refine ⟨res'.nodup_iff.2 ?_, fun x hx => ?_, fun r hr => ?_, fun r hr x hx => ?_, ?_⟩
  · rcases hres with ⟨p, _⟩ | ⟨p, _⟩
    · exact (p.append_right _).nodup_iff.2 nd
    · exact (p.append_right _).nodup_iff.2 (List.nodup_cons.2 ⟨fun hm => Nat.lt_irrefl _ (bd _ hm), nd⟩)
  · have hx := res'.mem_iff.1 hx
    rcases hres with ⟨p, e⟩ | ⟨p, e⟩
    · exact e ▸ bd x ((p.append_right _).mem_iff.1 hx)
    · rcases List.mem_cons.1 ((p.append_right _).mem_iff.1 hx) with rfl | hx
      · exact e ▸ Nat.lt_succ_self _
      · exact e ▸ Nat.lt_succ_of_lt (bd x hx)
  · rcases others r hr with rfl | ho
    · exact hbusy
    · exact h.busy r (old r ho)
  · rcases others r hr with rfl | ho
    · exact hfill x hx
    · obtain ⟨c, rest, e, hb⟩ := h.filled r (old r ho) x hx
      have hxr : x ∈ held (A ++ B) := List.mem_flatMap.2 ⟨r, ho, by rw [heldOf, hx]; exact List.mem_singleton_self x⟩
      exact ⟨c, rest, e, (hbufs x fun hxs => (List.nodup_append.1 nd).2.2 x (List.mem_append_right _ hxs) x hxr rfl).trans hb⟩
  · have pull := perm_pull (fun r => (pend r).map payload)
    rw [pending_map, hgs]
    refine ((pull _ A B s').trans ((hout.append_right _).trans ?_)).trans h.account
    rw [pending_map, hAB]
    exact (pull _ A B s).symm

theorem inv_step (payload : CallId → Bytes) (total : List Bytes) (w : World) (g : Nat)
    (h : Inv payload total w) : Inv payload total (step payload w g) := by
  unfold step stepWith
  cases hg : w.gs[g]? with
  | none => exact h
  | some s =>
    obtain ⟨todo, stage⟩ := s
    cases todo with
    | nil => exact h
    | cons c rest =>
      have busy' : ∀ st : Stage, st ≠ .idle → c :: rest ≠ [] := fun _ _ => List.cons_ne_nil _ _
      cases stage with
      | idle =>
        cases hp : w.pool with
        | nil =>
          exact h.move hg rfl (.inr ⟨by simp [hp, heldOf], rfl⟩) (busy' _) (fun _ _ => rfl) (fun _ e => nomatch e)
            (.refl _)
        | cons p ps =>
          exact h.move hg rfl (.inl ⟨by simp [hp, heldOf], rfl⟩) (busy' _) (fun _ _ => rfl) (fun _ e => nomatch e)
            (.refl _)
      | got x =>
        exact h.move hg rfl (.inl ⟨.refl _, rfl⟩) (busy' _) (fun y hy => if_neg fun e => hy (by simp [heldOf, e]))
          (fun y e => ⟨c, rest, rfl, by cases e; exact if_pos rfl⟩) (.refl _)
      | formatted x =>
        obtain ⟨c', rest', e, hb⟩ := h.filled _ (List.mem_of_getElem? hg) x rfl
        cases e
        exact h.move hg rfl (.inl ⟨.refl _, rfl⟩) (busy' _) (fun _ _ => rfl) (fun _ e => nomatch e)
          (by simp [pend, hb])
      | wrote x =>
        exact h.move hg rfl (.inl ⟨by simpa [heldOf] using (List.perm_append_singleton x w.pool).symm, rfl⟩)
          (fun e => absurd rfl e) (fun _ _ => rfl) (fun _ e => nomatch e) (.refl _)

theorem inv_init (payload : CallId → Bytes) (progs : List (List CallId)) :
    Inv payload (progs.flatten.map payload) (World.init progs) := by
  have hmem : ∀ s ∈ (World.init progs).gs, s.stage = .idle := fun s hs => by
    obtain ⟨p, _, rfl⟩ := List.mem_map.1 hs; rfl
  have hheld : held (World.init progs).gs = [] :=
    List.flatMap_eq_nil_iff.2 fun s hs => by rw [heldOf, hmem s hs]
  have hpend : pending (World.init progs).gs = progs.flatten := by
    simp only [pending, World.init, List.flatMap_map, pend, List.flatMap_id']
  refine ⟨?_, ?_, fun s hs hn => absurd (hmem s hs) hn, fun s hs x hx => ?_, ?_⟩
  · rw [hheld]; exact List.nodup_nil
  · rw [hheld]; exact fun x hx => nomatch hx
  · rw [hmem s hs] at hx; cases hx
  · rw [hpend]; exact .refl _

theorem inv_run (payload : CallId → Bytes) (total : List Bytes) (w : World) (sched : List Nat)
    (h : Inv payload total w) : Inv payload total (run payload w sched) :=
  List.foldlRecOn sched _ (motive := Inv payload total) h fun w h g _ => inv_step payload total w g h

theorem inv_reach (payload : CallId → Bytes) (progs : List (List CallId)) (sched : List Nat) :
    Inv payload (progs.flatten.map payload) (run payload (World.init progs) sched) :=
  inv_run payload _ _ sched (inv_init payload progs)

theorem pending_quiescent (gs : List GState) (h : ∀ s ∈ gs, s.todo = []) : pending gs = [] :=
  List.flatMap_eq_nil_iff.2 fun s hs => by unfold pend; split <;> simp [h s hs]

end Logg
