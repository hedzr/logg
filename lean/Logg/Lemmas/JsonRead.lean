/-
  The JSON member reader over balanced pieces: string literals written by the
  JSON escaper are single tokens whatever they contain; brackets and braces nest; a row of comma-led
  members splits back into exactly those members, each at its own colon.
-/
import Logg.Model.JsonRead
import Logg.Lemmas.QuoteClean

namespace Logg
open Logg.Lemmas

/-- scanning x from s: never a closing bracket below depth 0, no `bad` byte outside strings at depth 0 -/
def scanJ (bad : UInt8 → Bool) : JSt → Bytes → Option JSt
  | s, [] => some s
  | s, c :: rest =>
    if s = (.out, 0) ∧ bad c = true then none
    else match jStep s c with
      | none => none
      | some s' => scanJ bad s' rest

theorem scanJ_append (bad : UInt8 → Bool) (s : JSt) (a b : Bytes) :
    scanJ bad s (a ++ b) = (scanJ bad s a).bind (fun s' => scanJ bad s' b) := by
  induction s, a using scanJ.induct_unfolding bad with
  | case1 => rfl
  | case2 s c a hc => rw [List.cons_append, scanJ, if_pos hc]; rfl
  | case3 s c a hc hj => rw [List.cons_append, scanJ, if_neg hc, hj]; rfl
  | case4 s c a hc s1 hj ih => rw [List.cons_append, scanJ, if_neg hc, hj]; exact ih

theorem splitTop_scan (sep : UInt8) {s s' : JSt} (cur x rest : Bytes) (h : scanJ (· == sep) s x = some s') :
    splitTopFrom sep s cur (x ++ rest) = splitTopFrom sep s' (cur ++ x) rest := by
  induction s, x using scanJ.induct_unfolding (· == sep) generalizing cur with
  | case1 s => cases h; rw [List.append_nil]; rfl
  | case2 | case3 => cases h
  | case4 s c x hc s1 hj ih =>
    rw [List.cons_append, splitTopFrom, if_neg (by simpa using hc), hj]
    exact (ih _ h).trans (by rw [List.append_assoc]; rfl)

theorem splitFirst_scan (sep : UInt8) {s s' : JSt} (cur x rest : Bytes) (h : scanJ (· == sep) s x = some s') :
    splitFirstFrom sep s cur (x ++ rest) = splitFirstFrom sep s' (cur ++ x) rest := by
  induction s, x using scanJ.induct_unfolding (· == sep) generalizing cur with
  | case1 s => cases h; rw [List.append_nil]; rfl
  | case2 | case3 => cases h
  | case4 s c x hc s1 hj ih =>
    rw [List.cons_append, splitFirstFrom, if_neg (by simpa using hc), hj]
    exact (ih _ h).trans (by rw [List.append_assoc]; rfl)

/-- a weaker set of forbidden bytes only makes scanning easier -/
theorem scanJ_mono {bad bad' : UInt8 → Bool} (hb : ∀ c, bad' c = true → bad c = true) {s s' : JSt} {x : Bytes}
    (h : scanJ bad s x = some s') : scanJ bad' s x = some s' := by
  induction s, x using scanJ.induct_unfolding bad with
  | case1 => exact h
  | case2 | case3 => cases h
  | case4 s c x hc s1 hj ih => rw [scanJ, if_neg fun hh => hc ⟨hh.1, hb c hh.2⟩, hj]; exact ih h

theorem scanJ_plain {bad : UInt8 → Bool} {s : JSt} {x : Bytes}
    (h : ∀ c ∈ x, ¬ (s = (.out, 0) ∧ bad c = true) ∧ jStep s c = some s) : scanJ bad s x = some s := by
  induction x with
  | nil => rfl
  | cons c x ih =>
    obtain ⟨⟨hc, hq⟩, hx⟩ := List.forall_mem_cons.1 h
    rw [scanJ, if_neg hc, hq]; exact ih hx

/-- neither a comma nor a colon outside strings at depth 0 -/
def badCC (c : UInt8) : Bool := c == 44 || c == 58

/-- a value or key token: at any depth it scans back to where it began, without a comma or colon
    of its own outside strings and brackets -/
def JTok (x : Bytes) : Prop := ∀ d, scanJ badCC (.out, d) x = some (.out, d)
/-- a piece of the inside of a string -/
def JInq (x : Bytes) : Prop := ∀ d, scanJ badCC (.inq, d) x = some (.inq, d)
/-- a piece of the inside of a bracket or brace (commas and colons allowed) -/
def JIn (x : Bytes) : Prop := ∀ d, scanJ badCC (.out, d + 1) x = some (.out, d + 1)

theorem jtok_nil : JTok [] := fun _ => rfl
theorem jinq_nil : JInq [] := fun _ => rfl
theorem jin_nil : JIn [] := fun _ => rfl

theorem jinq_append {a b : Bytes} (ha : JInq a) (hb : JInq b) : JInq (a ++ b) := by
  intro d; rw [scanJ_append, ha d]; exact hb d
theorem jin_append {a b : Bytes} (ha : JIn a) (hb : JIn b) : JIn (a ++ b) := by
  intro d; rw [scanJ_append, ha d]; exact hb d

theorem jin_of_tok {x : Bytes} (h : JTok x) : JIn x := fun d => h (d + 1)

/-- bytes that mean nothing to the scanner outside strings -/
def plainJ (c : UInt8) : Bool := c != 34 && c != 44 && c != 58 && c != 91 && c != 93 && c != 123 && c != 125

theorem jtok_plain (x : Bytes) (h : ∀ c ∈ x, plainJ c = true) : JTok x := fun _ => scanJ_plain fun c hc => by
  have hc := h c hc
  simp only [plainJ, Bool.and_eq_true, bne_iff_ne, ne_eq] at hc
  simp [badCC, jStep, hc]

theorem jinq_plain (x : Bytes) (h : ∀ c ∈ x, c ≠ 34 ∧ c ≠ 92) : JInq x := fun _ => scanJ_plain fun c hc =>
  ⟨fun hh => QSt.noConfusion (Prod.mk.inj hh.1).1,
    (if_neg (mt beq_iff_eq.1 (h c hc).2)).trans (if_neg (mt beq_iff_eq.1 (h c hc).1))⟩

theorem jinq_escape (c : UInt8) : JInq [92, c] := fun _ => rfl

theorem jtok_string (body : Bytes) (h : JInq body) : JTok (34 :: (body ++ [34])) := by
  intro d
  rw [scanJ, if_neg fun h => absurd h.2 (by decide)]
  show scanJ badCC (.inq, d) (body ++ [34]) = _
  rw [scanJ_append, h d]; rfl

theorem jtok_bracket (o cl : UInt8) (ho : o = 91 ∨ o = 123) (hc : cl = 93 ∨ cl = 125) (inner : Bytes) (h : JIn inner) :
    JTok (o :: (inner ++ [cl])) := by
  intro d
  have hopen : scanJ badCC (.out, d) (o :: (inner ++ [cl])) = scanJ badCC (.out, d + 1) (inner ++ [cl]) := by
    rcases ho with rfl | rfl <;> exact if_neg fun h => absurd h.2 (by decide)
  have hclose : scanJ badCC (.out, d + 1) [cl] = some (.out, d) := by rcases hc with rfl | rfl <;> rfl
  rw [hopen, scanJ_append, h d]; exact hclose

theorem jin_byte (c : UInt8) (h : c = 44 ∨ c = 58) : JIn [c] := by
  intro d
  rcases h with rfl | rfl <;> rfl

theorem jinq_jsonEscape (fuel : Nat) (s : Bytes) : JInq (jsonEscape fuel s) := by
  have u (v : Nat) : JInq ([92, 117] ++ hex4 v) :=
    jinq_append (jinq_escape 117) (jinq_plain _ (hex_plain v).2.1)
  refine jsonEscape_pieces jinq_nil jinq_append ?_ (fun b => jsonEscapeByte_cases b (fun _ _ => jinq_escape _) (u _)) u
    (fun p h => jinq_plain p fun c hc => (high_plain (h c hc)).2) fuel s
  exact fun b h => jinq_plain _ fun c hc => List.mem_singleton.1 hc ▸ ((jsonSafe_iff b).1 h).2

theorem jsonQuote_jtok (s : Bytes) : JTok (jsonQuote s) := jtok_string _ (jinq_jsonEscape _ s)

/-- `key:value` -/
def memOf (p : Bytes × Bytes) : Bytes := p.1 ++ 58 :: p.2

/-- a member: no comma outside strings at depth 0 -/
def JMem (t : Bytes) : Prop := scanJ (· == 44) (.out, 0) t = some (.out, 0)

/-- a token scans through whichever of the two separators is looked for -/
theorem jtok_sep {x : Bytes} (h : JTok x) {sep : UInt8} (hs : badCC sep = true) :
    scanJ (· == sep) (.out, 0) x = some (.out, 0) :=
  scanJ_mono (fun c (hc : (c == sep) = true) => eq_of_beq hc ▸ hs) (h 0)

theorem jmem_of (k v : Bytes) (hk : JTok k) (hv : JTok v) : JMem (memOf (k, v)) := by
  unfold JMem memOf
  rw [scanJ_append, jtok_sep hk rfl]
  exact jtok_sep hv rfl

theorem splitMember_of (k v : Bytes) (hk : JTok k) : splitMember (memOf (k, v)) = some (k, v) := by
  unfold splitMember memOf
  rw [splitFirst_scan 58 [] k (58 :: v) (jtok_sep hk rfl)]
  rfl

theorem mapM_splitMember (ps : List (Bytes × Bytes)) (h : ∀ p ∈ ps, JTok p.1) : (ps.map memOf).mapM splitMember = some ps := by
  induction ps with
  | nil => rfl
  | cons p ps ih =>
    obtain ⟨hp, hps⟩ := List.forall_mem_cons.1 h
    rw [List.map_cons, List.mapM_cons, splitMember_of p.1 p.2 hp, ih hps]; rfl

/-- members each led by a comma -/
def commaEach : List Bytes → Bytes
  | [] => []
  | t :: T => 44 :: (t ++ commaEach T)

/-- members separated by commas -/
def joinC : List Bytes → Bytes
  | [] => []
  | t :: T => t ++ commaEach T

theorem commaEach_append (A B : List Bytes) : commaEach (A ++ B) = commaEach A ++ commaEach B := by
  induction A with
  | nil => rfl
  | cons t T ih => simp only [List.cons_append, commaEach, ih, List.append_assoc]

theorem splitTop_commaEach (T : List Bytes) (hT : ∀ t ∈ T, JMem t) (cur : Bytes) :
    splitTopFrom 44 (.out, 0) cur (commaEach T) = some (cur :: T) := by
  induction T generalizing cur with
  | nil => rfl
  | cons t T ih =>
    obtain ⟨ht, hT⟩ := List.forall_mem_cons.1 hT
    rw [commaEach, splitTopFrom, if_pos ⟨rfl, rfl⟩, splitTop_scan 44 [] t (commaEach T) ht, List.nil_append, ih hT t]; rfl

theorem splitTop_joinC (t : Bytes) (T : List Bytes) (ht : JMem t) (hT : ∀ t ∈ T, JMem t) :
    splitTopFrom 44 (.out, 0) [] (joinC (t :: T)) = some (t :: T) := by
  simp only [joinC]
  rw [splitTop_scan 44 [] t (commaEach T) ht, List.nil_append, splitTop_commaEach T hT t]

theorem jin_commaEach (T : List Bytes) (hT : ∀ t ∈ T, JIn t) : JIn (commaEach T) := by
  induction T with
  | nil => exact jin_nil
  | cons t T ih =>
    obtain ⟨ht, hT⟩ := List.forall_mem_cons.1 hT
    exact jin_append (a := [44]) (jin_byte 44 (.inl rfl)) (jin_append ht (ih hT))

theorem jin_joinC (T : List Bytes) (hT : ∀ t ∈ T, JIn t) : JIn (joinC T) := by
  cases T with
  | nil => exact jin_nil
  | cons t T => exact jin_append (hT t (.head _)) (jin_commaEach T fun t' h' => hT t' (.tail _ h'))

theorem jin_memOf (k v : Bytes) (hk : JTok k) (hv : JTok v) : JIn (memOf (k, v)) :=
  jin_append (jin_of_tok hk) (jin_append (a := [58]) (jin_byte 58 (.inr rfl)) (jin_of_tok hv))

/-- members whose key literal and value text are each one token -/
def JPairs (ps : List (Bytes × Bytes)) : Prop := ∀ p ∈ ps, JTok p.1 ∧ JTok p.2

theorem JPairs.nil : JPairs [] := fun _ h => nomatch h
theorem JPairs.cons {k v : Bytes} {ps : List (Bytes × Bytes)} (hk : JTok k) (hv : JTok v) (h : JPairs ps) :
    JPairs ((k, v) :: ps) := fun p hp => (List.mem_cons.mp hp).elim (fun e => e ▸ ⟨hk, hv⟩) (h p)
theorem JPairs.append {ps qs : List (Bytes × Bytes)} (hp : JPairs ps) (hq : JPairs qs) : JPairs (ps ++ qs) :=
  fun p h => (List.mem_append.mp h).elim (hp p) (hq p)

theorem jsonMembers_braces (inner : Bytes) :
    jsonMembers (123 :: (inner ++ [125])) =
      if inner.isEmpty then some [] else (splitTopFrom 44 (.out, 0) [] inner).bind fun ms => ms.mapM splitMember := by
  simp only [jsonMembers, List.reverse_append, List.reverse_cons, List.reverse_nil, List.nil_append, List.singleton_append,
    List.reverse_reverse]

/-- **an object text reads back as its members**: `{` k1:v1 `,` k2:v2 … `}` -/
theorem jsonMembers_object (ps : List (Bytes × Bytes)) (h : JPairs ps) :
    jsonMembers (123 :: (joinC (ps.map memOf) ++ [125])) = some ps := by
  rw [jsonMembers_braces]
  cases ps with
  | nil => rfl
  | cons p ps =>
    have hm : ∀ q ∈ p :: ps, JMem (memOf q) := fun q hq => jmem_of q.1 q.2 (h q hq).1 (h q hq).2
    have hne : (joinC ((p :: ps).map memOf)).isEmpty = false := by cases hp : p.1 <;> simp [joinC, memOf, hp]
    rw [hne, if_neg Bool.false_ne_true, List.map_cons,
      splitTop_joinC _ _ (hm p (.head _)) fun t ht => by obtain ⟨q, hq, rfl⟩ := List.mem_map.1 ht; exact hm q (.tail _ hq)]
    exact mapM_splitMember (p :: ps) fun q hq => (h q hq).1

theorem jtok_object (ps : List (Bytes × Bytes)) (h : JPairs ps) : JTok (123 :: (joinC (ps.map memOf) ++ [125])) :=
  jtok_bracket 123 125 (.inr rfl) (.inr rfl) _ <| jin_joinC _ fun t ht => by
    obtain ⟨q, hq, rfl⟩ := List.mem_map.1 ht
    exact jin_memOf q.1 q.2 (h q hq).1 (h q hq).2

end Logg
