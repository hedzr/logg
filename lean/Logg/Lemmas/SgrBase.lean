/-
  The two readers of SGR sequences `ESC [ n m` over the pieces the colored encoder writes: the terminal model `sgrScan`
  (is a colour on, was a line feed met while one was) and the remover `stripFrom`.
-/
import Logg.Model.Strip
import Logg.Model.Encoder
import Logg.Lemmas.QuoteClean

namespace Logg
open Logg.Lemmas

/-- a terminal's view of SGR sequences, reduced to what the property is about: is any colour or
    attribute switched on, and was a line feed met while one was. Deliberately stricter than a terminal:
    only `ESC [ digits m` counts as a sequence (a `;` makes it `bad`, although the remover `stripSgr` accepts it:
    the encoder never writes one), and any non-zero parameter counts as "on". Run by `Drive/C17` against the
    oracle's tracker. -/
structure Sgr where
  colored : Bool   -- some colour / attribute is on
  mode : Nat       -- 0 text, 1 after ESC, 2 inside the parameter of "ESC ["
  nz : Bool        -- mode 2: a non-zero digit was seen
  bad : Bool       -- a line feed while colored, or a sequence the encoder never writes
  deriving DecidableEq, Repr

def Sgr.init : Sgr := ⟨false, 0, false, false⟩

def sgrStep (s : Sgr) (c : UInt8) : Sgr :=
  if s.mode = 0 then
    if c = 27 then { s with mode := 1 }
    else if c = 10 then { s with bad := s.bad || s.colored }
    else s
  else if s.mode = 1 then
    if c = 91 then { s with mode := 2, nz := false } else { s with mode := 0, bad := true }
  else
    if 48 ≤ c.toNat ∧ c.toNat ≤ 57 then { s with nz := s.nz || c != 48 }
    else if c = 109 then { s with mode := 0, colored := s.nz, nz := false }
    else { s with mode := 0, bad := true }

def sgrScan (s : Sgr) (bs : Bytes) : Sgr := bs.foldl sgrStep s

theorem sgrScan_append (s : Sgr) (a b : Bytes) : sgrScan s (a ++ b) = sgrScan (sgrScan s a) b :=
  List.foldl_append

/-- between sequences, nothing pending, nothing wrong so far -/
def Txt (s : Sgr) : Prop := s.mode = 0 ∧ s.nz = false ∧ s.bad = false

theorem sgrScan_plain (s : Sgr) (hs : s.mode = 0) (bs : Bytes) (h : NoC0 bs) : sgrScan s bs = s := by
  induction bs generalizing s with
  | nil => rfl
  | cons c t ih =>
    have hc : 32 ≤ c.toNat := h c (by simp)
    have h27 : c ≠ 27 := by intro e; subst e; simp at hc
    have h10 : c ≠ 10 := by intro e; subst e; simp at hc
    have : sgrStep s c = s := by simp [sgrStep, hs, h27, h10]
    show sgrScan (sgrStep s c) t = s
    rw [this]
    exact ih s hs (fun x hx => h x (by simp [hx]))

theorem sgrScan_digits (s : Sgr) (hs : s.mode = 2) (ds : Bytes) (hd : ∀ c ∈ ds, 48 ≤ c.toNat ∧ c.toNat ≤ 57) :
    sgrScan s ds = { s with nz := s.nz || ds.any (· != 48) } := by
  induction ds generalizing s with
  | nil => simp [sgrScan]
  | cons c t ih =>
    have hc := hd c (by simp)
    have hstep : sgrStep s c = { s with nz := s.nz || c != 48 } := by
      simp [sgrStep, hs, hc.1, hc.2]
    show sgrScan (sgrStep s c) t = _
    rw [hstep, ih _ (by simpa using hs) (fun x hx => hd x (by simp [hx]))]
    simp [Bool.or_assoc]

theorem sgrScan_esc (s : Sgr) (hs : Txt s) (n : Int) (hn : 0 ≤ n) :
    sgrScan s (esc n) = { s with colored := decide (n ≠ 0) } := by
  obtain ⟨h0, h1, h2⟩ := hs
  unfold esc
  rw [intDigits_of_nonneg hn, sgrScan_append, sgrScan_append]
  have e1 : sgrScan s [27, 91] = { s with mode := 2, nz := false } := by
    simp [sgrScan, sgrStep, h0]
  rw [e1, sgrScan_digits _ rfl _ (natDigits_digit _), natDigits_nonzero]
  rw [show decide (n.toNat ≠ 0) = decide (n ≠ 0) from decide_eq_decide.mpr (by omega)]
  cases s with
  | mk colored mode nz bad =>
    simp only at h0 h1 h2
    subst h0 h1 h2
    simp [sgrScan, sgrStep]

/-- x, read from between sequences, leaves y and ends between sequences -/
def Strips (x y : Bytes) : Prop := ∀ rest, stripFrom [] (x ++ rest) = y ++ stripFrom [] rest

theorem strips_nil : Strips [] [] := fun _ => rfl

theorem strips_append {a a' b b' : Bytes} (ha : Strips a a') (hb : Strips b b') : Strips (a ++ b) (a' ++ b') := by
  intro rest
  rw [List.append_assoc, ha, hb, List.append_assoc]

theorem strips_plain (x : Bytes) (h : ∀ c ∈ x, c ≠ 27) : Strips x x := by
  induction x with
  | nil => exact strips_nil
  | cons c x ih =>
    intro rest
    have hc : (c == 27) = false := by simpa using h c (by simp)
    simp only [List.cons_append, stripFrom, hc, Bool.false_eq_true, ↓reduceIte]
    rw [ih (fun c' hc' => h c' (by simp [hc']))]

theorem strips_noC0 (x : Bytes) (h : NoC0 x) : Strips x x :=
  strips_plain x (fun c hc e => by have := h c hc; subst e; simp at this)

theorem stripFrom_params (a b : UInt8) (t ds rest : Bytes) (hd : ∀ c ∈ ds, isSgrParam c = true) :
    stripFrom (a :: b :: t) (ds ++ 109 :: rest) = stripFrom [] rest := by
  induction ds generalizing t with
  | nil => simp only [List.nil_append, stripFrom, beq_self_eq_true, ↓reduceIte]
  | cons c ds ih =>
    obtain ⟨hc, hds⟩ := List.forall_mem_cons.1 hd
    have h109 : (c == 109) = false := beq_false_of_ne fun e => absurd (e ▸ hc) (by decide)
    simp only [List.cons_append, stripFrom, h109, hc, Bool.false_eq_true, ↓reduceIte]
    exact ih (t ++ [c]) hds

theorem digit_isParam (c : UInt8) (h : 48 ≤ c.toNat ∧ c.toNat ≤ 57) : isSgrParam c = true := by
  simp [isSgrParam, UInt8.le_iff_toNat_le, h.1, h.2]

theorem strips_esc (n : Int) (hn : 0 ≤ n) : Strips (esc n) [] := by
  intro rest
  have hparams : ∀ c ∈ natDigits n.toNat, isSgrParam c = true := fun c hc => digit_isParam c (natDigits_digit _ c hc)
  simp only [esc, intDigits_of_nonneg hn, List.append_assoc, List.cons_append, List.nil_append]
  show stripFrom [] (27 :: 91 :: (natDigits n.toNat ++ 109 :: rest)) = [] ++ stripFrom [] rest
  simp only [stripFrom, beq_self_eq_true, ↓reduceIte, List.nil_append]
  exact stripFrom_params 27 91 [] _ rest hparams

theorem stripSgr_of {x y : Bytes} (h : Strips x y) : stripSgr x = y := by
  have := h []
  simpa [stripSgr, stripFrom] using this

end Logg
