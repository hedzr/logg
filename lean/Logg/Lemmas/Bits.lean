/- `f &&& 2^k` is `if f.testBit k then 2^k else 0`; hence Go's `IsAnyBitsSet` / `IsAllBitsSet` on a one-bit mask. -/
namespace Logg.Lemmas

theorem and_two_pow (f k : Nat) : f &&& 2 ^ k = if f.testBit k then 2 ^ k else 0 := by
  apply Nat.eq_of_testBit_eq
  intro i
  by_cases hki : k = i
  · subst hki; cases h : f.testBit k <;> simp [h]
  · cases f.testBit k <;> simp [Nat.testBit_two_pow_of_ne hki]

/-- Testing a one-bit flag ("any bit set", `IsAnyBitsSet`) is reading that bit. -/
theorem land_two_pow_ne_zero (f k : Nat) : (Nat.land f (2 ^ k) != 0) = f.testBit k := by
  show ((f &&& 2 ^ k) != 0) = _
  rw [and_two_pow]
  cases f.testBit k <;> simp

/-- For a one-bit flag "all bits set" (`IsAllBitsSet`) and "any bit set" (`IsAnyBitsSet`) coincide. -/
theorem land_single_bit (f : Nat) (k : Nat) : (Nat.land f (2 ^ k) == 2 ^ k) = (Nat.land f (2 ^ k) != 0) := by
  show ((f &&& 2 ^ k) == 2 ^ k) = ((f &&& 2 ^ k) != 0)
  rw [and_two_pow]
  cases f.testBit k <;> simp [Nat.ne_of_lt (Nat.two_pow_pos k)]

end Logg.Lemmas
