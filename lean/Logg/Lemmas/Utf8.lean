/-
  UTF-8: the well-formed multi-byte sequences (`Utf8Seq`), the rune read as a number in base 64 (Horner form) so that
  encoding and decoding are rewriting. `decodeRune` takes an ASCII byte, or the encoding of a valid rune from U+0080 on,
  off the front, or reports an error of width one (zero on empty input).
-/
import Logg.Model.Utf8
import Logg.Lemmas.Digits
namespace Logg

theorem not_lt_of_le_toNat {b m : UInt8} {n : Nat} (h : n ≤ b.toNat) (hm : m.toNat ≤ n) : ¬ b < m :=
  fun h' => Nat.not_lt.2 (Nat.le_trans hm h) (UInt8.lt_iff_toNat_lt.1 h')
theorem le_toNat_of_not_lt {b m : UInt8} (h : ¬ b < m) : m.toNat ≤ b.toNat := Nat.le_of_not_lt (mt UInt8.lt_iff_toNat_lt.2 h)

theorem shl6_or (x y : Nat) : x <<< 6 ||| (y &&& 0x3F) = x * 64 + y % 64 := by
  rw [Nat.and_two_pow_sub_one_eq_mod y 6, ← Nat.shiftLeft_add_eq_or_of_lt (Nat.mod_lt y (by decide)), Nat.shiftLeft_eq]

theorem shl_or (x y k : Nat) : x <<< (k + 6) ||| (y &&& 0x3F) <<< k = (x * 64 + y % 64) <<< k := by
  rw [← shl6_or, Nat.shiftLeft_or_distrib, ← Nat.shiftLeft_add, Nat.add_comm]

theorem div64 (a d : Nat) : (a * 64 + d % 64) / 64 = a := by
  rw [Nat.add_comm, Nat.add_mul_div_right _ _ (by decide), Nat.div_eq_of_lt (Nat.mod_lt d (by decide)), Nat.zero_add]
theorem mod64 (a d : Nat) : (a * 64 + d % 64) % 64 = d % 64 := Nat.mul_add_mod_of_lt (Nat.mod_lt d (by decide))

/- A byte of a multi-byte sequence is a marker `m` over `k` payload bits, `2 ^ k * m + x` with `x < 2 ^ k`: `110`, `1110`, `11110`
   over the top digit in a lead byte, `10` over a base-64 digit in a continuation byte. -/
theorem marker_or (k m : Nat) {x : Nat} (hx : x < 2 ^ k) : 2 ^ k * m ||| x = 2 ^ k * m + x := (Nat.two_pow_add_eq_or_of_lt hx m).symm

theorem marker_digit (k m : Nat) {x : Nat} (hx : x < 2 ^ k) : (2 ^ k * m + x) % 2 ^ k = x :=
  Nat.mul_comm _ _ ▸ Nat.mul_add_mod_of_lt hx

theorem marker_mod (k m : Nat) {n : Nat} (lo : 2 ^ k * m ≤ n) (hi : n < 2 ^ k * (m + 1)) : 2 ^ k * m + n % 2 ^ k = n := by
  have : n / 2 ^ k = m := Nat.div_eq_of_lt_le (Nat.mul_comm _ _ ▸ lo) (Nat.mul_comm _ _ ▸ hi)
  rw [← this]; exact Nat.div_add_mod n (2 ^ k)

theorem mod64_lt {x : Nat} : x % 64 < 64 := Nat.mod_lt x (by decide)

theorem cont_or (x : Nat) : 0x80 ||| (x &&& 0x3F) = 128 + x % 64 := by
  rw [Nat.and_two_pow_sub_one_eq_mod x 6]; exact marker_or 6 2 mod64_lt

theorem shr6 (r : Nat) : r >>> 6 = r / 64 := Nat.shiftRight_eq_div_pow r 6
theorem shr12 (r : Nat) : r >>> 12 = r / 64 / 64 := by rw [Nat.div_div_eq_div_mul]; exact Nat.shiftRight_eq_div_pow r 12
theorem shr18 (r : Nat) : r >>> 18 = r / 64 / 64 / 64 := by
  rw [Nat.div_div_eq_div_mul, Nat.div_div_eq_div_mul]; exact Nat.shiftRight_eq_div_pow r 18

theorem rune2 (b0 b1 : Nat) : (b0 &&& 0x1F) <<< 6 ||| (b1 &&& 0x3F) = b0 % 32 * 64 + b1 % 64 := by
  rw [shl6_or, Nat.and_two_pow_sub_one_eq_mod _ 5]
theorem rune3 (b0 b1 b2 : Nat) :
    (b0 &&& 0x0F) <<< 12 ||| (b1 &&& 0x3F) <<< 6 ||| (b2 &&& 0x3F) = (b0 % 16 * 64 + b1 % 64) * 64 + b2 % 64 := by
  rw [shl_or _ _ 6, shl6_or, Nat.and_two_pow_sub_one_eq_mod _ 4]
theorem rune4 (b0 b1 b2 b3 : Nat) :
    (b0 &&& 0x07) <<< 18 ||| (b1 &&& 0x3F) <<< 12 ||| (b2 &&& 0x3F) <<< 6 ||| (b3 &&& 0x3F) =
      ((b0 % 8 * 64 + b1 % 64) * 64 + b2 % 64) * 64 + b3 % 64 := by
  rw [shl_or _ _ 12, shl_or _ _ 6, shl6_or, Nat.and_two_pow_sub_one_eq_mod _ 3]

theorem validRune_iff (r : Nat) : validRune r = true ↔ r < 0xD800 ∨ 0xDFFF < r ∧ r ≤ 0x10FFFF := by
  unfold validRune maxRune
  simp only [Bool.or_eq_true, Bool.and_eq_true, decide_eq_true_eq]

/- the top digit of a rune of two, three, four bytes fits the payload of its lead byte -/
theorem top2 {r : Nat} (h : r < 0x800) : r / 64 < 2 ^ 5 := Nat.div_lt_of_lt_mul h
theorem top3 {r : Nat} (h : r < 0x10000) : r / 64 / 64 < 2 ^ 4 := Nat.div_lt_of_lt_mul (Nat.div_lt_of_lt_mul h)
theorem top4 {r : Nat} (h : r ≤ 0x10FFFF) : r / 64 / 64 / 64 < 2 ^ 3 :=
  Nat.div_lt_of_lt_mul (Nat.div_lt_of_lt_mul (Nat.div_lt_of_lt_mul (Nat.lt_of_le_of_lt h (by decide))))

theorem encodeRune_ascii (r : Nat) (h : r < 0x80) : encodeRune r = [r.toUInt8] := by
  have hv : validRune r = true := (validRune_iff r).2 (Or.inl (Nat.lt_trans h (by decide)))
  simp only [encodeRune, hv, if_true, h]

theorem encodeRune_two (r : Nat) (h0 : 0x80 ≤ r) (h1 : r < 0x800) :
    encodeRune r = [(192 + r / 64).toUInt8, (128 + r % 64).toUInt8] := by
  have hv : validRune r = true := (validRune_iff r).2 (Or.inl (Nat.lt_trans h1 (by decide)))
  simp only [encodeRune, hv, if_true, if_neg (Nat.not_lt.2 h0), if_pos h1, shr6, cont_or]
  rw [marker_or 5 6 (top2 h1)]

theorem encodeRune_three (r : Nat) (h0 : 0x800 ≤ r) (h1 : r < 0x10000) (hv : validRune r = true) :
    encodeRune r = [(224 + r / 64 / 64).toUInt8, (128 + r / 64 % 64).toUInt8, (128 + r % 64).toUInt8] := by
  have n0 : ¬ r < 0x80 := Nat.not_lt.2 (Nat.le_trans (by decide) h0)
  simp only [encodeRune, hv, if_true, if_neg n0, if_neg (Nat.not_lt.2 h0), if_pos h1, shr6, shr12, cont_or]
  rw [marker_or 4 14 (top3 h1)]

theorem encodeRune_four (r : Nat) (h0 : 0x10000 ≤ r) (h1 : r ≤ 0x10FFFF) :
    encodeRune r = [(240 + r / 64 / 64 / 64).toUInt8, (128 + r / 64 / 64 % 64).toUInt8, (128 + r / 64 % 64).toUInt8,
      (128 + r % 64).toUInt8] := by
  have hv : validRune r = true := (validRune_iff r).2 (Or.inr ⟨Nat.lt_of_lt_of_le (by decide) h0, h1⟩)
  have n0 : ¬ r < 0x80 := Nat.not_lt.2 (Nat.le_trans (by decide) h0)
  have n1 : ¬ r < 0x800 := Nat.not_lt.2 (Nat.le_trans (by decide) h0)
  simp only [encodeRune, hv, if_true, if_neg n0, if_neg n1, if_neg (Nat.not_lt.2 h0), shr6, shr12, shr18, cont_or]
  rw [marker_or 3 30 (top4 h1)]

theorem encodeRune_invalid {r : Nat} (h : validRune r = false) : encodeRune r = [0xEF, 0xBF, 0xBD] := by
  simp only [encodeRune, h, Bool.false_eq_true, if_false]; decide

theorem isCont_iff (b : UInt8) : isCont b = true ↔ 0x80 ≤ b.toNat ∧ b.toNat ≤ 0xBF := by
  simp only [isCont, Bool.and_eq_true, decide_eq_true_eq, UInt8.le_iff_toNat_le]; rfl

namespace Lemmas
theorem isCont_high (c : UInt8) (h : isCont c = true) : 128 ≤ c.toNat := ((isCont_iff c).1 h).1
end Lemmas

theorem cont_mod {b : UInt8} (h : isCont b = true) : 128 + b.toNat % 64 = b.toNat :=
  have ⟨lo, hi⟩ := (isCont_iff b).1 h
  marker_mod 6 2 lo (Nat.lt_succ_of_le hi)

theorem toNat_cont (x : Nat) : (128 + x % 64).toUInt8.toNat = 128 + x % 64 := toUInt8_toNat_add 128 mod64_lt (by decide)
theorem isCont_cont (x : Nat) : isCont (128 + x % 64).toUInt8 = true :=
  (isCont_iff _).2 ((toNat_cont x).symm ▸ ⟨Nat.le_add_right _ _, Nat.add_le_add_left (Nat.le_of_lt_succ mod64_lt) 128⟩)
theorem cont_digit (x : Nat) : (128 + x % 64).toUInt8.toNat % 64 = x % 64 := (toNat_cont x).symm ▸ marker_digit 6 2 mod64_lt

/- What the windows of the first two bytes `n0 = marker + a`, `n1 = 128 + d1` say of the rune `v` the digits spell: it lies in the
   range of its length (no overlong form), is no surrogate and not beyond U+10FFFF. Stated over the digits, so that `omega` meets
   no division; `encode` uses the three facts from left to right, `of_rune` from right to left. -/
theorem two_window {n0 a d v : Nat} (e0 : n0 = 192 + a) (hd : d < 64) (hv : v = a * 64 + d) :
    0xC2 ≤ n0 ∧ n0 < 0xE0 ↔ 0x80 ≤ v ∧ v < 0x800 := by omega

theorem three_window {n0 n1 a d1 d2 v : Nat} (e0 : n0 = 224 + a) (e1 : n1 = 128 + d1) (h1 : d1 < 64) (h2 : d2 < 64)
    (hv : v = (a * 64 + d1) * 64 + d2) :
    n0 < 0xF0 ∧ (n0 = 0xE0 → 0xA0 ≤ n1) ∧ (n0 = 0xED → n1 ≤ 0x9F) ↔ 0x800 ≤ v ∧ v < 0x10000 ∧ (v < 0xD800 ∨ 0xDFFF < v) := by
  omega

theorem four_window {n0 n1 a d1 d2 d3 v : Nat} (e0 : n0 = 240 + a) (e1 : n1 = 128 + d1) (h1 : d1 < 64) (h2 : d2 < 64)
    (h3 : d3 < 64) (hv : v = ((a * 64 + d1) * 64 + d2) * 64 + d3) :
    n0 < 0xF5 ∧ (n0 = 0xF0 → 0x90 ≤ n1) ∧ (n0 = 0xF4 → n1 ≤ 0x8F) ↔ 0x10000 ≤ v ∧ v ≤ 0x10FFFF := by omega

theorem ite_le_iff {c : Prop} [Decidable c] {l m x : UInt8} (h : m ≤ l) : (if c then l else m) ≤ x ↔ m ≤ x ∧ (c → l ≤ x) := by
  by_cases hc : c
  · simp only [hc, if_true, true_imp_iff]; exact ⟨fun h' => ⟨UInt8.le_trans h h', h'⟩, And.right⟩
  · simp only [hc, if_false, false_imp_iff, and_true]
theorem le_ite_iff {c : Prop} [Decidable c] {u m x : UInt8} (h : u ≤ m) : x ≤ (if c then u else m) ↔ x ≤ m ∧ (c → x ≤ u) := by
  by_cases hc : c
  · simp only [hc, if_true, true_imp_iff]; exact ⟨fun h' => ⟨UInt8.le_trans h' h, h'⟩, And.right⟩
  · simp only [hc, if_false, false_imp_iff, and_true]

/-- the window of the second byte as `decodeRune` tests it: a continuation byte, the range cut at its lower end for one
    lead byte (`kl`) and at its upper end for another (`kh`) -/
theorem window_iff (b0 b1 kl l kh u : UInt8) (hl : 0x80 ≤ l) (hu : u ≤ 0xBF) :
    (decide ((if (b0 == kl) = true then l else 0x80) ≤ b1) && decide (b1 ≤ if (b0 == kh) = true then u else 0xBF)) = true ↔
      isCont b1 = true ∧ (b0.toNat = kl.toNat → l.toNat ≤ b1.toNat) ∧ (b0.toNat = kh.toNat → b1.toNat ≤ u.toNat) := by
  simp only [isCont, Bool.and_eq_true, decide_eq_true_eq, ite_le_iff hl, le_ite_iff hu, beq_iff_eq, UInt8.toNat_inj,
    ← UInt8.le_iff_toNat_le]
  exact ⟨fun h => ⟨⟨h.1.1, h.2.1⟩, h.1.2, h.2.2⟩, fun h => ⟨⟨h.1.1, h.2.1⟩, h.1.2, h.2.2⟩⟩

/-- `Utf8Seq bs r`: `bs` is a lead byte and its continuation bytes, the second byte inside the window that rules out
    overlong forms, surrogates and runes beyond U+10FFFF; `r` is the number its base-64 digits spell. -/
inductive Utf8Seq : Bytes → Nat → Prop
  | two {b0 b1 : UInt8} : 0xC2 ≤ b0.toNat → b0.toNat < 0xE0 → isCont b1 = true →
      Utf8Seq [b0, b1] (b0.toNat % 32 * 64 + b1.toNat % 64)
  | three {b0 b1 b2 : UInt8} : 0xE0 ≤ b0.toNat → b0.toNat < 0xF0 → isCont b1 = true →
      (b0.toNat = 0xE0 → 0xA0 ≤ b1.toNat) → (b0.toNat = 0xED → b1.toNat ≤ 0x9F) → isCont b2 = true →
      Utf8Seq [b0, b1, b2] ((b0.toNat % 16 * 64 + b1.toNat % 64) * 64 + b2.toNat % 64)
  | four {b0 b1 b2 b3 : UInt8} : 0xF0 ≤ b0.toNat → b0.toNat < 0xF5 → isCont b1 = true →
      (b0.toNat = 0xF0 → 0x90 ≤ b1.toNat) → (b0.toNat = 0xF4 → b1.toNat ≤ 0x8F) → isCont b2 = true → isCont b3 = true →
      Utf8Seq [b0, b1, b2, b3] (((b0.toNat % 8 * 64 + b1.toNat % 64) * 64 + b2.toNat % 64) * 64 + b3.toNat % 64)

namespace Utf8Seq

theorem high {bs : Bytes} {r : Nat} (h : Utf8Seq bs r) : ∀ c ∈ bs, 128 ≤ c.toNat := by
  have cont {b : UInt8} : isCont b = true → 128 ≤ b.toNat := Lemmas.isCont_high b
  cases h with
  | two h0 _ h1 => simp only [List.forall_mem_cons]; exact ⟨Nat.le_trans (by decide) h0, cont h1, nofun⟩
  | three h0 _ h1 _ _ h2 => simp only [List.forall_mem_cons]; exact ⟨Nat.le_trans (by decide) h0, cont h1, cont h2, nofun⟩
  | four h0 _ h1 _ _ h2 h3 =>
    simp only [List.forall_mem_cons]; exact ⟨Nat.le_trans (by decide) h0, cont h1, cont h2, cont h3, nofun⟩

theorem two_le_length {bs : Bytes} {r : Nat} (h : Utf8Seq bs r) : 2 ≤ bs.length := by
  cases h <;> exact Nat.le_add_left 2 _

theorem encode {bs : Bytes} {r : Nat} (h : Utf8Seq bs r) : encodeRune r = bs ∧ 0x80 ≤ r ∧ validRune r = true := by
  cases h with
  | @two b0 b1 h0 h0' h1 =>
    have e0 := marker_mod 5 6 (Nat.le_trans (by decide) h0) h0'
    obtain ⟨lo, hi⟩ := (two_window e0.symm mod64_lt rfl).1 ⟨h0, h0'⟩
    refine ⟨?_, lo, (validRune_iff _).2 (Or.inl (Nat.lt_trans hi (by decide)))⟩
    simp only [encodeRune_two _ lo hi, div64, mod64, e0, cont_mod h1, UInt8.ofNat_toNat]
  | @three b0 b1 b2 h0 h0' h1 hlo hhi h2 =>
    have e0 := marker_mod 4 14 h0 h0'
    obtain ⟨lo, hi, sur⟩ := (three_window e0.symm (cont_mod h1).symm mod64_lt mod64_lt rfl).1 ⟨h0', hlo, hhi⟩
    have hv := (validRune_iff _).2 (sur.imp id fun h => ⟨h, Nat.le_trans (Nat.le_of_lt hi) (by decide)⟩)
    refine ⟨?_, Nat.le_trans (by decide) lo, hv⟩
    simp only [encodeRune_three _ lo hi hv, div64, mod64, e0, cont_mod h1, cont_mod h2, UInt8.ofNat_toNat]
  | @four b0 b1 b2 b3 h0 h0' h1 hlo hhi h2 h3 =>
    have e0 := marker_mod 3 30 h0 (Nat.lt_trans h0' (by decide))
    obtain ⟨lo, hi⟩ := (four_window e0.symm (cont_mod h1).symm mod64_lt mod64_lt mod64_lt rfl).1 ⟨h0', hlo, hhi⟩
    have hv := (validRune_iff _).2 (Or.inr ⟨Nat.lt_of_lt_of_le (by decide) lo, hi⟩)
    refine ⟨?_, Nat.le_trans (by decide) lo, hv⟩
    simp only [encodeRune_four _ lo hi, div64, mod64, e0, cont_mod h1, cont_mod h2, cont_mod h3, UInt8.ofNat_toNat]

-- `if_pos` / `if_neg` against the unfolded definition: `simp only [decodeRune]` would first generate its equation lemmas
theorem decode {bs : Bytes} {r : Nat} (h : Utf8Seq bs r) (t : Bytes) : decodeRune (bs ++ t) = (r, bs.length) := by
  cases h with
  | @two b0 b1 h0 h0' h1 =>
    have n {m : UInt8} (hm : m.toNat ≤ _ := by decide) : ¬ b0 < m := not_lt_of_le_toNat h0 hm
    exact (if_neg n).trans <| (if_neg n).trans <| (if_pos (UInt8.lt_iff_toNat_lt.2 h0')).trans <| (if_pos h1).trans <|
      congrArg (·, 2) (rune2 _ _)
  | @three b0 b1 b2 h0 h0' h1 hlo hhi h2 =>
    have n {m : UInt8} (hm : m.toNat ≤ _ := by decide) : ¬ b0 < m := not_lt_of_le_toNat h0 hm
    have w := Bool.and_eq_true_iff.2 ⟨(window_iff b0 b1 0xE0 0xA0 0xED 0x9F (by decide) (by decide)).2 ⟨h1, hlo, hhi⟩, h2⟩
    exact (if_neg n).trans <| (if_neg n).trans <| (if_neg n).trans <| (if_pos (UInt8.lt_iff_toNat_lt.2 h0')).trans <|
      (if_pos w).trans <| congrArg (·, 3) (rune3 _ _ _)
  | @four b0 b1 b2 b3 h0 h0' h1 hlo hhi h2 h3 =>
    have n {m : UInt8} (hm : m.toNat ≤ _ := by decide) : ¬ b0 < m := not_lt_of_le_toNat h0 hm
    have w := Bool.and_eq_true_iff.2 ⟨Bool.and_eq_true_iff.2
      ⟨(window_iff b0 b1 0xF0 0x90 0xF4 0x8F (by decide) (by decide)).2 ⟨h1, hlo, hhi⟩, h2⟩, h3⟩
    exact (if_neg n).trans <| (if_neg n).trans <| (if_neg n).trans <| (if_neg n).trans <|
      (if_pos (UInt8.lt_iff_toNat_lt.2 h0')).trans <| (if_pos w).trans <| congrArg (·, 4) (rune4 _ _ _ _)

theorem of_rune {r : Nat} (h0 : 0x80 ≤ r) (hv : validRune r = true) : Utf8Seq (encodeRune r) r := by
  -- per length: the constructor on the bytes `encodeRune_k` writes, its window from `k_window` read right to left,
  -- then the digits rewritten back to `r` (`hr`)
  by_cases h2 : r < 0x800
  · have e0 := toUInt8_toNat_add 192 (top2 h2) (by decide)
    obtain ⟨l, u⟩ := (two_window e0 mod64_lt (Nat.div_add_mod' r 64).symm).2 ⟨h0, h2⟩
    have := two l u (isCont_cont r)
    simpa only [e0, marker_digit 5 6 (top2 h2), cont_digit, Nat.div_add_mod', ← encodeRune_two r h0 h2] using this
  have sur : r < 0xD800 ∨ 0xDFFF < r ∧ r ≤ 0x10FFFF := (validRune_iff r).1 hv
  by_cases h3 : r < 0x10000
  · have hr : (r / 64 / 64 * 64 + r / 64 % 64) * 64 + r % 64 = r := by rw [Nat.div_add_mod', Nat.div_add_mod']
    have e0 := toUInt8_toNat_add 224 (top3 h3) (by decide)
    obtain ⟨u, lo, hi⟩ := (three_window e0 (toNat_cont _) mod64_lt mod64_lt hr.symm).2 ⟨Nat.le_of_not_lt h2, h3, sur.imp id And.left⟩
    have := three (e0.symm ▸ Nat.le_add_right _ _) u (isCont_cont _) lo hi (isCont_cont r)
    simpa only [e0, marker_digit 4 14 (top3 h3), cont_digit, hr, ← encodeRune_three r (Nat.le_of_not_lt h2) h3 hv] using this
  · have hr : ((r / 64 / 64 / 64 * 64 + r / 64 / 64 % 64) * 64 + r / 64 % 64) * 64 + r % 64 = r := by
      rw [Nat.div_add_mod', Nat.div_add_mod', Nat.div_add_mod']
    have h4 := (sur.resolve_left fun h => h3 (Nat.lt_trans h (by decide))).2
    have e0 := toUInt8_toNat_add 240 (top4 h4) (by decide)
    obtain ⟨u, lo, hi⟩ := (four_window e0 (toNat_cont _) mod64_lt mod64_lt mod64_lt hr.symm).2 ⟨Nat.le_of_not_lt h3, h4⟩
    have := four (e0.symm ▸ Nat.le_add_right _ _) u (isCont_cont _) lo hi (isCont_cont (r / 64)) (isCont_cont r)
    simpa only [e0, marker_digit 3 30 (top4 h4), cont_digit, hr, ← encodeRune_four r (Nat.le_of_not_lt h3) h4] using this

end Utf8Seq

theorem decodeRune_ascii (b0 : UInt8) (t : Bytes) (h : b0 < 0x80) : decodeRune (b0 :: t) = (b0.toNat, 1) := if_pos h

theorem decodeRune_cases (s : Bytes) :
    decodeRune s = (runeError, min 1 s.length) ∨ (∃ b t, s = b :: t ∧ b < 0x80 ∧ decodeRune s = (b.toNat, 1)) ∨
      ∃ bs r t, Utf8Seq bs r ∧ s = bs ++ t ∧ decodeRune s = (r, bs.length) := by
  -- the four successful branches (ASCII; lead byte of two, three, four with its continuation bytes); all others are errors
  induction s using decodeRune.fun_cases_unfolding
  case case2 b0 t h => exact Or.inr (Or.inl ⟨b0, t, rfl, h, rfl⟩)
  case case4 b0 _ h2 h3 b1 t h1 =>
    exact Or.inr (Or.inr ⟨_, _, t, .two (le_toNat_of_not_lt h2) (UInt8.lt_iff_toNat_lt.1 h3) h1, rfl, congrArg (·, 2) (rune2 _ _)⟩)
  case case7 b0 _ _ h2 h3 b1 b2 t lo hi h =>
    obtain ⟨hw, hc⟩ := Bool.and_eq_true_iff.1 h
    obtain ⟨h1, hlo, hhi⟩ := (window_iff b0 b1 _ _ _ _ (by decide) (by decide)).1 hw
    exact Or.inr (Or.inr ⟨_, _, t, .three (le_toNat_of_not_lt h2) (UInt8.lt_iff_toNat_lt.1 h3) h1 hlo hhi hc, rfl,
      congrArg (·, 3) (rune3 _ _ _)⟩)
  case case10 b0 _ _ _ h2 h3 b1 b2 b3 t lo hi h =>
    obtain ⟨h, hc3⟩ := Bool.and_eq_true_iff.1 h
    obtain ⟨hw, hc2⟩ := Bool.and_eq_true_iff.1 h
    obtain ⟨h1, hlo, hhi⟩ := (window_iff b0 b1 _ _ _ _ (by decide) (by decide)).1 hw
    exact Or.inr (Or.inr ⟨_, _, t, .four (le_toNat_of_not_lt h2) (UInt8.lt_iff_toNat_lt.1 h3) h1 hlo hhi hc2 hc3, rfl,
      congrArg (·, 4) (rune4 _ _ _ _)⟩)
  all_goals exact Or.inl rfl

theorem decode_encode (r : Nat) (h0 : 0x80 ≤ r) (hv : validRune r = true) (t : Bytes) :
    decodeRune (encodeRune r ++ t) = (r, (encodeRune r).length) := (Utf8Seq.of_rune h0 hv).decode t

theorem decodeRune_high {b0 : UInt8} {t : Bytes} {r w : Nat} (hb : ¬ b0 < 0x80) (hd : decodeRune (b0 :: t) = (r, w))
    (he : ¬ (r = runeError ∧ w = 1)) :
    0x80 ≤ r ∧ validRune r = true ∧ w = (encodeRune r).length ∧ ∃ t', b0 :: t = encodeRune r ++ t' := by
  rcases decodeRune_cases (b0 :: t) with h | ⟨b, _, e, hb', _⟩ | ⟨bs, r', t', hs, e, h⟩
  · exact absurd (Prod.mk.inj (hd.symm.trans h)) he
  · cases e; exact absurd hb' hb
  · obtain ⟨rfl, rfl⟩ := Prod.mk.inj (hd.symm.trans h)
    obtain ⟨he, h0, hv⟩ := hs.encode
    exact ⟨h0, hv, he ▸ rfl, t', he ▸ e⟩

theorem decodeRune_width (p : Bytes) : (decodeRune p).2 ≤ p.length := by
  rcases decodeRune_cases p with h | ⟨b, t, e, _, h⟩ | ⟨bs, r, t, _, e, h⟩ <;> rw [h]
  · exact Nat.min_le_right 1 _
  · rw [e]; exact Nat.le_add_left 1 _
  · rw [e, List.length_append]; exact Nat.le_add_right _ _

theorem two_le_length_encodeRune {r : Nat} (h : 0x80 ≤ r) (hv : validRune r = true) : 2 ≤ (encodeRune r).length :=
  (Utf8Seq.of_rune h hv).two_le_length

theorem encodeRune_tail_le {r fuel : Nat} {t : Bytes} (h : 0x80 ≤ r) (hv : validRune r = true)
    (hs : (encodeRune r ++ t).length ≤ fuel + 1) : t.length ≤ fuel := by
  have := two_le_length_encodeRune h hv; rw [List.length_append] at hs; omega

theorem encodeRune_ne_nil (r : Nat) : encodeRune r ≠ [] := by
  cases hv : validRune r
  · rw [encodeRune_invalid hv]; exact List.cons_ne_nil _ _
  · by_cases h : r < 0x80
    · rw [encodeRune_ascii r h]; exact List.cons_ne_nil _ _
    · exact List.ne_nil_of_length_pos (Nat.lt_of_lt_of_le (by decide) (two_le_length_encodeRune (Nat.le_of_not_lt h) hv))

namespace Lemmas

theorem encodeRune_high (r : Nat) (h : 0x80 ≤ r) : ∀ c ∈ encodeRune r, 128 ≤ c.toNat := by
  cases hv : validRune r
  · rw [encodeRune_invalid hv]; decide
  · exact (Utf8Seq.of_rune h hv).high

theorem encodeRune_byte (r : Nat) : ∀ c ∈ encodeRune r, c.toNat = r ∨ 128 ≤ c.toNat := by
  by_cases hl : r < 0x80
  · rw [encodeRune_ascii r hl]
    exact List.forall_mem_singleton.2 (Or.inl (UInt8.toNat_ofNat_of_lt' (Nat.lt_trans hl (by decide))))
  · exact fun c hc => Or.inr (encodeRune_high r (Nat.le_of_not_lt hl) c hc)

end Lemmas
end Logg
