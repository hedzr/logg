/-
  Bridge theorems for C01: the hand-written admission rule agrees with the function
  regenerated from `Level.Enabled`, and the hand-written level numbers with the iota block.
-/
import Logg.Model.Level
import Logg.Gen.Decisions

namespace Logg.Bridge
open Logg

theorem level_constants :
    Gen.PanicLevel = Lv.panic ∧ Gen.FatalLevel = Lv.fatal ∧ Gen.ErrorLevel = Lv.error ∧
    Gen.WarnLevel = Lv.warn ∧ Gen.InfoLevel = Lv.info ∧ Gen.DebugLevel = Lv.debug ∧
    Gen.TraceLevel = Lv.trace ∧ Gen.OffLevel = Lv.off ∧ Gen.AlwaysLevel = Lv.always ∧
    Gen.OKLevel = Lv.ok ∧ Gen.SuccessLevel = Lv.success ∧ Gen.FailLevel = Lv.fail ∧
    Gen.MaxLevel = Lv.max := by decide

/-- `Level.Enabled`, as the code says it now, is the admission rule of the statement —
    for all integer levels and any registry. -/
theorem enabled_eq_admits (g : Globals) (L r : Int) : Gen.enabled g L r = admits g L r := by
  -- The atoms of the rule are decided in the order the rule consults them; at each leaf one `simp` sees both
  -- definitions and what is known so far, so nothing depends on how the Go function nests or orders its tests.
  unfold admits effective Lv.off Lv.always Lv.debug
  by_cases hL7 : L = 7
  · simp [Gen.enabled, hL7]
  by_cases hr7 : r = 7
  · simp [Gen.enabled, hr7]
  by_cases hL8 : L = 8
  · simp [Gen.enabled, hL8, hr7]
  by_cases hr8 : r = 8
  · simp [Gen.enabled, hL7, hr8]
  cases hm : g.debugMode
  · cases hlk : List.lookup r g.treatAs <;> simp [Gen.enabled, hL7, hr7, hL8, hr8, hm, hlk]
  by_cases h5 : r = 5
  · simp [Gen.enabled, hL7, hL8, hm, h5]
  · cases hlk : List.lookup r g.treatAs <;> simp [Gen.enabled, hL7, hr7, hL8, hr8, hm, h5, hlk]
